import LfsModel.AStream
import LfsModel.Pointer
/-
Executable model of the clean and smudge filters over a chunked stream
(lfs/gitfilter_clean.go: copyToTemp, commands/command_clean.go: clean,
 commands/command_smudge.go: smudge, lfs/gitfilter_smudge.go: Smudge, lfs/pointer.go: DecodeFrom),
as the code is after the D1/D16/D18 repairs.  Core-only.

`H` is SHA-256 (abstract in theorems, `Sha256.hexDigest` in the oracle).
The local object store is an association list oid ↦ content (first match wins).
-/
namespace Flt
open LfsA LfsA.Stream

abbrev Bytes := List UInt8
abbrev cut : Nat := Lfs.cut

abbrev Store := List (Bytes × Bytes)
def Store.get (st : Store) (o : Bytes) : Option Bytes :=
  match st with
  | [] => none
  | (k, v) :: rest => if k = o then some v else Store.get rest o

/-- `DecodeFrom`: io.ReadFull of the `cut`-byte window, then the pointer decoder on the window.
Returns the verdict, the window and the rest of the stream. -/
def decodeFrom (s : Stream) : Except Lfs.Err (Lfs.Ptr × Bool) × Bytes × Stream :=
  let (buf, _, s') := s.readFull cut
  (Lfs.dec buf, buf, s')

inductive CleanRes
  | pass (out : Bytes)                      -- CleanPointerError: bytes written back verbatim, store untouched
  | stored (oid : Bytes) (content : Bytes)  -- content stored (or already present) under oid; pointer emitted
  | mismatch                                -- an object of another size sits under that oid: "Files don't match", exit
deriving DecidableEq, Repr

/-- `commands.clean` (no extensions configured).  The size hint / the file at the named path only
feed the progress callback and do not appear. -/
def clean (H : Bytes → Bytes) (s : Stream) (st : Store) : CleanRes × Store :=
  let (r, buf, s') := decodeFrom s
  if buf.isEmpty then (.pass [], st)                 -- the second read reports EOF: empty pointer
  else match r with
    | .ok _ => (.pass buf, st)                        -- err == nil ∧ len(by) < cut
    | .error _ =>
      let content := buf ++ s'.data
      let oid := H content
      match st.get oid with
      | some c => if c.length = content.length then (.stored oid content, st) else (.mismatch, st)
      | none => (.stored oid content, (oid, content) :: st)

/-- the bytes `clean` writes to Git -/
def CleanRes.out : CleanRes → Bytes
  | .pass b => b
  | .stored oid c => Lfs.enc { oid := oid, size := c.length, exts := [] }
  | .mismatch => []

inductive SmudgeRes
  | bytes (out : Bytes) (notPtr : Bool)     -- bytes written to Git; notPtr = "Unable to parse pointer" reported
  | needDownload (p : Lfs.Ptr)              -- object absent (or of the wrong size, then removed): transfer queue
deriving DecidableEq, Repr

/-- `commands.smudge` + `GitFilter.Smudge` with the object looked up in the local store -/
def smudge (s : Stream) (st : Store) : SmudgeRes :=
  let (r, buf, s') := decodeFrom s
  match r with
  | .error _ => .bytes (buf ++ s'.data) (!(buf ++ s'.data).isEmpty)
  | .ok (p, _) =>
    if p.size = 0 then .bytes [] false
    else match st.get p.oid with
      | some c => if c.length = p.size then .bytes c false else .needDownload p
      | none => .needDownload p

/-! ### the specification on whole byte strings (no streams, no windows) -/

def cleanSpec (H : Bytes → Bytes) (b : Bytes) (st : Store) : CleanRes × Store :=
  if b.isEmpty then (.pass [], st)
  else match Lfs.dec b with
    | .ok _ => (.pass b, st)
    | .error _ =>
      match st.get (H b) with
      | some c => if c.length = b.length then (.stored (H b) b, st) else (.mismatch, st)
      | none => (.stored (H b) b, (H b, b) :: st)

def smudgeSpec (b : Bytes) (st : Store) : SmudgeRes :=
  match Lfs.dec b with
  | .error _ => .bytes b (!b.isEmpty)
  | .ok (p, _) =>
    if p.size = 0 then .bytes [] false
    else match st.get p.oid with
      | some c => if c.length = p.size then .bytes c false else .needDownload p
      | none => .needDownload p

/-! ### the merge driver's output file (commands/command_merge_driver.go: processFiles)
A file opened for writing WITHOUT `O_TRUNC` keeps the old tail beyond what is written. -/
def writeOver (trunc : Bool) (old new : Bytes) : Bytes :=
  if trunc then new else new ++ old.drop new.length

/-- what `processFiles` leaves in the `--output` file: the cleaned text of the merge result, the
    file being truncated when it is opened -/
def mergeDriverOutput (old cleaned : Bytes) : Bytes := writeOver true old cleaned

end Flt
