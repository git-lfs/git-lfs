import LfsModel.FilterProcess
/-
C14, the protocol side of filter-process: the reader of pkt-line framing recovers what the writer framed (the hex
length header first), the content packets of an answer are bounded by the writer's capacity and carry exactly the
content, and the lists announced over the delay rounds make up the queue.
-/
namespace FP

theorem hexVal_hexDigit : ∀ d < 16, hexVal (hexDigit d) = some d := by decide

theorem parseHex4_hex4 (n : Nat) (h : n < 65536) : parseHex4 (hex4 n) = some n := by
  have hdigit (m : Nat) : hexVal (hexDigit (m % 16)) = some (m % 16) :=
    hexVal_hexDigit _ (Nat.mod_lt m (by decide))
  simp only [hex4, parseHex4, hdigit, Option.bind_eq_bind, Option.bind_some, Option.pure_def]
  -- Horner's rule backwards, one digit at a time: `m / 16 * 16 + m % 16 = m`
  rw [Nat.mod_eq_of_lt (Nat.div_lt_of_lt_mul h),
    show n / 4096 = n / 256 / 16 from (Nat.div_div_eq_div_mul n 256 16).symm, Nat.div_add_mod',
    show n / 256 = n / 16 / 16 from (Nat.div_div_eq_div_mul n 16 16).symm, Nat.div_add_mod', Nat.div_add_mod']

theorem hex4_length (n : Nat) : (hex4 n).length = 4 := rfl

/-- a packet list is well-formed when every data packet is non-empty and at most `maxData` long -/
def WF (ps : List Pkt) : Prop := ∀ p ∈ ps, ∀ d, p = .data d → 0 < d.length ∧ d.length ≤ maxData

theorem encPkt_length (p : Pkt) : 4 ≤ (encPkt p).length := by
  cases p with
  | flush => simp [encPkt]
  | data d => simp [encPkt, hex4_length]

theorem encode_cons (p : Pkt) (ps : List Pkt) : encode (p :: ps) = encPkt p ++ encode ps := rfl

theorem decode_nil (fuel : Nat) : decode fuel [] = some [] := by
  cases fuel <;> rfl

/-- one step of the reader on what the writer framed (an empty data packet, "0004", is read back too) -/
theorem decode_encPkt (fuel : Nat) (p : Pkt) (hp : ∀ d, p = .data d → d.length ≤ maxData) (rest : Bytes) :
    decode (fuel + 1) (encPkt p ++ rest) = (decode fuel rest).map (p :: ·) := by
  cases p with
  | flush =>
    have : parseHex4 ([48, 48, 48, 48] : Bytes) = some 0 := by decide
    simp [decode, encPkt, this]
  | data d =>
    have hn : d.length + 4 < 65536 := Nat.lt_of_le_of_lt (Nat.add_le_add_right (hp d rfl) 4) (by decide)
    have hne : (hex4 (d.length + 4) ++ (d ++ rest)).isEmpty = false := rfl
    -- the length field reads back as `d.length + 4`, which passes the three tests of `decode`; then take and drop
    -- cut `d` off `d ++ rest`
    simp [decode, encPkt, hne, List.take_left' (hex4_length _), List.drop_left' (hex4_length _), parseHex4_hex4 _ hn,
      Nat.not_lt_of_le, Nat.le_add_left, Nat.le_add_right]

/-- **C14.pkt_roundtrip** -/
theorem decode_encode : ∀ (ps : List Pkt) (fuel : Nat), (∀ p ∈ ps, ∀ d, p = .data d → d.length ≤ maxData) →
    (encode ps).length ≤ fuel → decode fuel (encode ps) = some ps := by
  intro ps
  induction ps with
  | nil => intro fuel _ _; exact decode_nil fuel
  | cons p ps ih =>
    intro fuel hmax hlen
    obtain ⟨hp, hps⟩ := List.forall_mem_cons.mp hmax
    rw [encode_cons, List.length_append] at hlen
    have := encPkt_length p
    cases fuel with
    | zero => omega
    | succ fuel => rw [encode_cons, decode_encPkt fuel p hp, ih fuel hps (by omega), Option.map_some]

/-! ### the writer: content packets are bounded and carry exactly the content -/
theorem chunk_flatten (cap : Nat) : ∀ (fuel : Nat) (d : Bytes), 0 < cap → d.length < fuel →
    (chunk cap fuel d).flatten = d := by
  intro fuel d hcap
  fun_induction chunk cap fuel d with
  | case1 d => exact fun h => absurd h (Nat.not_lt_zero _)
  | case2 fuel d hempty => exact fun _ => (List.isEmpty_iff.mp hempty).symm
  | case3 fuel d hne ih =>
    intro hlen
    have hpos : 0 < d.length := List.length_pos_iff.mpr (mt List.isEmpty_iff.mpr hne)
    have hdrop : (d.drop cap).length < fuel :=
      List.length_drop ▸ Nat.lt_of_lt_of_le (Nat.sub_lt hpos hcap) (Nat.le_of_lt_succ hlen)
    rw [List.flatten_cons, ih hdrop, List.take_append_drop]

theorem chunk_bounded (cap : Nat) : ∀ (fuel : Nat) (d : Bytes), 0 < cap →
    ∀ c ∈ chunk cap fuel d, 0 < c.length ∧ c.length ≤ cap := by
  intro fuel d hcap
  fun_induction chunk cap fuel d with
  | case1 d => exact List.forall_mem_nil _
  | case2 fuel d hempty => exact List.forall_mem_nil _
  | case3 fuel d hne ih =>
    have hpos : 0 < d.length := List.length_pos_iff.mpr (mt List.isEmpty_iff.mpr hne)
    rw [List.forall_mem_cons, List.length_take]
    exact ⟨⟨Nat.lt_min.mpr ⟨hcap, hpos⟩, Nat.min_le_left ..⟩, ih⟩

theorem mem_render {cap : Nat} {r : Resp} {d : Bytes} (h : .data d ∈ r.render cap) :
    (∃ s, d = statusLine s) ∨ d ∈ chunk cap (r.content.length + 1) r.content := by
  -- a data packet of an answer is its status line, a chunk of the content or, after success, the final status line
  unfold Resp.render at h
  split at h
  · simp only [List.mem_append, List.mem_cons, List.not_mem_nil, contentPkts, List.mem_map, Pkt.data.injEq,
      reduceCtorEq, or_false, exists_eq_right] at h
    rcases h with (rfl | h) | h
    · exact .inl ⟨_, rfl⟩
    · exact .inr h
    · split at h
      · exact .inl ⟨_, by simpa using h⟩
      · cases h
  · exact .inl ⟨_, by simpa using h⟩

/-- **C14.response_wellformed_smudge**, **C14.response_wellformed_clean** -/
theorem render_wf (cap : Nat) (hcap : 0 < cap) (hmax : cap ≤ maxData) (r : Resp) : WF (r.render cap) := by
  intro p hp d hd
  subst hd
  rcases mem_render hp with ⟨s, rfl⟩ | hc
  · cases s <;> decide
  · have := chunk_bounded cap _ r.content hcap d hc
    exact ⟨this.1, Nat.le_trans this.2 hmax⟩

/-- **C14.delayed_announced_exactly_once**, **available_list_becomes_empty**, **rounds_make_progress** are its parts -/
theorem announce_eq (ks : List Nat) (q : List String) :
    ∃ rounds, announce ks q = rounds ++ [[]] ∧ rounds.flatten = q ∧ ∀ r ∈ rounds, r ≠ [] := by
  fun_induction announce ks q with
  | case1 ks => exact ⟨[], rfl, rfl, List.forall_mem_nil _⟩
  | case2 a as => exact ⟨[a :: as], rfl, List.append_nil _, List.forall_mem_cons.mpr ⟨List.cons_ne_nil _ _, List.forall_mem_nil _⟩⟩
  | case3 k ks a as ih =>
    obtain ⟨rounds, heq, hflat, hne⟩ := ih
    refine ⟨(a :: as.take k) :: rounds, congrArg (List.cons _) heq, ?_, ?_⟩
    · rw [List.flatten_cons, hflat, List.cons_append, List.take_append_drop]
    · exact List.forall_mem_cons.mpr ⟨List.cons_ne_nil _ _, hne⟩

end FP
