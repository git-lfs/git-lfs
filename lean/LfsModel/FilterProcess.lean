import LfsModel.FilterModel
/-
Model of `git-lfs filter-process` (commands/command_filter_process.go, git/filter_process_scanner.go,
the vendored pktline writer): pkt-line framing, the answer to one request, the delay rounds.
Core-only, executable.
-/
namespace FP
abbrev Bytes := List UInt8

/-! ### pkt-line framing -/
def hexDigit (n : Nat) : UInt8 := if n < 10 then UInt8.ofNat (48 + n) else UInt8.ofNat (87 + n)
def hexVal (c : UInt8) : Option Nat :=
  if 48 ≤ c ∧ c ≤ 57 then some (c.toNat - 48) else if 97 ≤ c ∧ c ≤ 102 then some (c.toNat - 87) else none

def hex4 (n : Nat) : Bytes := [hexDigit (n / 4096 % 16), hexDigit (n / 256 % 16), hexDigit (n / 16 % 16), hexDigit (n % 16)]
def parseHex4 : Bytes → Option Nat
  | [a, b, c, d] => do
    let a ← hexVal a; let b ← hexVal b; let c ← hexVal c; let d ← hexVal d
    pure (((a * 16 + b) * 16 + c) * 16 + d)
  | _ => none

inductive Pkt | data (d : Bytes) | flush
deriving DecidableEq, Repr

def maxData : Nat := 65516

def encPkt : Pkt → Bytes
  | .flush => [48, 48, 48, 48]
  | .data d => hex4 (d.length + 4) ++ d

def encode (ps : List Pkt) : Bytes := (ps.map encPkt).flatten

/-- the reader side (fuel = number of bytes) -/
def decode : Nat → Bytes → Option (List Pkt)
  | 0, b => if b.isEmpty then some [] else none
  | fuel+1, b =>
    if b.isEmpty then some [] else
    match parseHex4 (b.take 4) with
    | none => none
    | some n =>
      if n = 0 then (decode fuel (b.drop 4)).map (Pkt.flush :: ·)
      else if n < 4 then none
      else if (b.drop 4).length < n - 4 then none
      else (decode fuel ((b.drop 4).drop (n - 4))).map (Pkt.data ((b.drop 4).take (n - 4)) :: ·)

/-- PktlineWriter: content is cut into packets of at most `cap` bytes (cap > 0), none empty -/
def chunk (cap : Nat) : Nat → Bytes → List Bytes
  | 0, _ => []
  | fuel+1, d => if d.isEmpty then [] else d.take cap :: chunk cap fuel (d.drop cap)

def contentPkts (cap : Nat) (d : Bytes) : List Pkt := (chunk cap (d.length + 1) d).map Pkt.data

/-! ### one request -/
inductive Status | success | delayed | error
deriving DecidableEq, Repr

structure Resp where
  status : Status
  content : Bytes := []
  final : Option Status := none      -- trailing status list (none: nothing follows, as for `delayed`)
deriving DecidableEq, Repr

def statusLine : Status → Bytes
  | .success => [115, 116, 97, 116, 117, 115, 61, 115, 117, 99, 99, 101, 115, 115, 10]   -- "status=success\n"
  | .delayed => [115, 116, 97, 116, 117, 115, 61, 100, 101, 108, 97, 121, 101, 100, 10]   -- "status=delayed\n"
  | .error => [115, 116, 97, 116, 117, 115, 61, 101, 114, 114, 111, 114, 10]   -- "status=error\n"

/-- the bytes on the wire for an answer -/
def Resp.render (cap : Nat) (r : Resp) : List Pkt :=
  let st (s : Status) : Pkt := .data (statusLine s)
  match r.status with
  | .success => [st .success, .flush] ++ contentPkts cap r.content ++ [.flush] ++
      (match r.final with | some f => [st f] | none => []) ++ [.flush]
  | s => [st s, .flush]

/-- `stale`: the object is on the server, and at its path in local storage sits a file of ANOTHER SIZE
    (what an interrupted copy leaves): not the object -/
inductive Where | local | server | missing | failing | stale
deriving DecidableEq, Repr

/-- `clean` request: the content is exactly what the one-shot clean filter writes (Flt.clean) -/
def answerClean (H : Bytes → Bytes) (payload : LfsA.Stream) (st : Flt.Store) : Resp × Flt.Store :=
  let (r, st') := Flt.clean H payload st
  ({ status := .success, content := r.out, final := some .success }, st')

/-- `smudge` request.  `obj` = the bytes of the object the pointer names, as the local store or
the server would supply them; `wh` = where that object is when the request arrives. -/
def answerSmudge (canDelay skipErrs : Bool) (wh : Where) (obj : Bytes) (payload : LfsA.Stream) : Option Resp :=
  match Flt.smudge payload [] with
  | .bytes out _ => some { status := .success, content := out, final := some .success }   -- not a pointer (or empty)
  | .needDownload p =>          -- a pointer (the empty store stands for "look at `wh`")
    if wh = .local then some { status := .success, content := obj, final := some .success }
    else if canDelay then some { status := .delayed }
    else match wh with
      | .server => some { status := .success, content := obj, final := some .success }
      | .stale => some { status := .success, content := obj, final := some .success }
      | _ => if skipErrs then some { status := .success, content := Lfs.enc p, final := some .success }
             else none            -- os.Exit(2) in the middle of the exchange (known finding D22)

/-! ### the delay rounds: what `list_available_blobs` announces -/

/-- second argument = the delayed paths in the order their downloads complete (C06: each exactly once);
first argument = how many happen to be ready at each call (any schedule).  Each round announces a non-empty
batch until nothing is left, then the empty list. -/
def announce : List Nat → List String → List (List String)
  | _, [] => [[]]
  | [], a :: as => [a :: as, []]
  | k :: ks, a :: as => (a :: as.take k) :: announce ks (as.drop k)

end FP
