/-
C12 — how `git lfs migrate` re-points refs that lead to a commit through annotated tag objects
(git/githistory/ref_updater.go: updateOneRef, updateOneTag, rewriteTagObject).  A ref's target is a commit or a
tag object (name, tagger, message: the field `info`, collected by `metas`) around another target; `img` is the
rewriter's commit map (cacheFn: none = the commit was not rewritten).  Core-only.
-/
namespace TagRw

inductive Target where
  | commit (c : Nat)
  | tag (info : Nat) (t : Target)
  deriving Repr, DecidableEq

/-- the commit a target leads to (`<ref>^{commit}`) -/
def peel : Target → Nat
  | .commit c => c
  | .tag _ t => peel t

/-- the tag objects on the way, outermost first -/
def metas : Target → List Nat
  | .commit _ => []
  | .tag m t => m :: metas t

/-- rewriteTagObject / updateOneRef: a copy of every tag object on the way, around the image of the commit;
    nothing when the commit has no image -/
def rewrite (img : Nat → Option Nat) : Target → Option Target
  | .commit c => (img c).map .commit
  | .tag m t => (rewrite img t).map (.tag m)

/-- **C12.tag_chain_leads_to_the_image**, **C12.tag_chain_keeps_every_tag** -/
theorem rewrite_eq_some {img : Nat → Option Nat} {t t' : Target} (h : rewrite img t = some t') :
    img (peel t) = some (peel t') ∧ metas t' = metas t := by
  induction t generalizing t' with
  | commit c =>
    obtain ⟨c', hc, rfl⟩ := Option.map_eq_some_iff.mp h
    exact ⟨hc, rfl⟩
  | tag m t ih =>
    obtain ⟨u, hu, rfl⟩ := Option.map_eq_some_iff.mp h
    exact ⟨(ih hu).1, congrArg (m :: ·) (ih hu).2⟩

example : rewrite (fun c => if c = 1 then some 10 else none) (.tag 7 (.tag 8 (.commit 1))) = some (.tag 7 (.tag 8 (.commit 10))) := by decide

end TagRw
