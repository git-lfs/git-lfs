import LfsModel.RedirectModel
/-
C10 of the model `Rd2`: every trace `chain` emits has the shape `Hops`, and of that shape — without fuel — it is
proved that every request is `Confined` (the Authorization value goes where it was obtained for), that no hop goes
from https to http, and that a trace has at most `maxVia` requests.  `runAuth` inherits confinement.
-/
namespace Rd2

/-- the code's test is equality of the two places as the URLs spell them -/
theorem sameOrigin_iff {a b : Lst} : sameOrigin a b = true ↔ a = b := by
  cases a
  cases b
  simp [sameOrigin, and_assoc]

theorem sameOrigin_refl (a : Lst) : sameOrigin a a = true := sameOrigin_iff.mpr rfl

/-- the code's test implies the property's notion: same scheme, same host, same EFFECTIVE port -/
theorem sameOrigin_effective {a b : Lst} (h : sameOrigin a b = true) :
    a.scheme = b.scheme ∧ a.name = b.name ∧ a.effPort = b.effPort :=
  sameOrigin_iff.mp h ▸ ⟨rfl, rfl, rfl⟩

/-- a request is confined when the value it carries (if any) was obtained for the place it goes to -/
def Confined (w : World) (q : Req) : Prop :=
  ∀ l, q.auth = some l → sameOrigin (w.lst l) (w.lst q.lst) = true

variable {w : World} {access : Bool} {canFill : Nat → Bool} {r0 r nx : Req}

theorem confined_own (h : r.auth = some r.lst) : Confined w r := by
  intro l hl
  cases h.symm.trans hl
  exact sameOrigin_refl _

theorem sent_confined (h : Confined w r) : Confined w r.sent := by
  -- `sent` changes a request only when it has no header and its URL carries credentials
  obtain ⟨node, lst, auth, implicit⟩ := r
  cases auth with
  | some l => exact h
  | none =>
    cases implicit with
    | false => exact h
    | true => exact confined_own rfl

theorem sent_lst (r : Req) : r.sent.lst = r.lst := rfl

theorem prepare_spec (h : prepare access canFill r0 = some r) : r = r0 ∨ r = { r0 with auth := some r0.lst } := by
  rw [prepare] at h
  split at h
  · exact .inl (Option.some.inj h).symm
  · exact .inr (Option.some.inj (Option.ite_none_right_eq_some.mp h).2).symm

theorem prepare_lst (h : prepare access canFill r0 = some r) : r.lst = r0.lst := by
  rcases prepare_spec h with rfl | rfl <;> rfl

theorem prepare_confined (h : prepare access canFill r0 = some r) (hc : Confined w r0) : Confined w r := by
  rcases prepare_spec h with rfl | rfl
  · exact hc
  · exact confined_own rfl

/-- a redirect that is followed is no downgrade, and keeps the header only within the origin -/
theorem nextReq_spec {to : Nat} {loc : Loc} (h : nextReq w r to loc = some nx) :
    ¬ ((w.lst r.lst).scheme = .https ∧ (w.lst nx.lst).scheme = .http) ∧
    ∀ l, nx.auth = some l → r.auth = some l ∧ sameOrigin (w.lst r.lst) (w.lst nx.lst) = true := by
  cases loc with
  | bad => cases h
  | rel =>
    cases h
    exact ⟨fun hd => Scheme.noConfusion (hd.1.symm.trans hd.2), fun l hl => ⟨hl, sameOrigin_refl _⟩⟩
  | abs =>
    obtain ⟨hnd, h⟩ := Option.ite_none_left_eq_some.mp h
    cases h
    exact ⟨hnd, fun l hl => (Option.ite_none_right_eq_some.mp hl).symm⟩

theorem nextReq_confined {to : Nat} {loc : Loc} (h : nextReq w r to loc = some nx) (hc : Confined w r) :
    Confined w nx := by
  intro l hl
  obtain ⟨ha, hso⟩ := (nextReq_spec h).2 l hl
  exact sameOrigin_iff.mp hso ▸ hc l ha

/-- The shape of every trace `chain` emits, whatever the servers answer: nothing; or the request as
prepared and sent, followed — below the redirect limit, when `nextReq` accepts the Location — by the
trace of the next request.  The properties of traces are proved of this shape, without fuel. -/
inductive Hops (w : World) (access : Bool) (canFill : Nat → Bool) : Nat → Req → List Req → Prop
  | stop (via r0) : Hops w access canFill via r0 []
  | last {via r0 r} : prepare access canFill r0 = some r → Hops w access canFill via r0 [r.sent]
  | hop {via r0 r to loc nx t} : prepare access canFill r0 = some r → via + 1 < maxVia →
      nextReq w r to loc = some nx → Hops w access canFill (via + 1) nx t →
      Hops w access canFill via r0 (r.sent :: t)

theorem chain_hops (w : World) (access : Bool) (canFill : Nat → Bool) (fuel via : Nat) (r0 : Req) :
    Hops w access canFill via r0 (chain w access canFill fuel via r0).1 := by
  -- the branches of `chain` in order: no fuel, nothing prepared; a final answer, not found, unauthorized,
  -- the redirect limit, a Location that is not followed; a redirect that is followed
  fun_induction chain w access canFill fuel via r0
  · exact .stop _ _
  · exact .stop _ _
  · exact .last ‹_›
  · exact .last ‹_›
  · exact .last ‹_›
  · exact .last ‹_›
  · exact .last ‹_›
  · next ih => exact .hop ‹_› (Nat.lt_of_not_le ‹_›) ‹_› ih

def NoDowngrade (w : World) : List Req → Prop
  | [] => True
  | [_] => True
  | a :: b :: rest => ¬ ((w.lst a.lst).scheme = .https ∧ (w.lst b.lst).scheme = .http) ∧ NoDowngrade w (b :: rest)

namespace Hops
variable {via : Nat} {t : List Req}

theorem confined (h : Hops w access canFill via r0 t) (hc : Confined w r0) : ∀ q ∈ t, Confined w q := by
  induction h with
  | stop => exact List.forall_mem_nil _
  | last hp => exact List.forall_mem_singleton.mpr (sent_confined (prepare_confined hp hc))
  | hop hp _ hn _ ih =>
    have hr := prepare_confined hp hc
    exact List.forall_mem_cons.mpr ⟨sent_confined hr, ih (nextReq_confined hn hr)⟩

theorem length_le (h : Hops w access canFill via r0 t) (hv : via < maxVia) : t.length + via ≤ maxVia := by
  induction h with
  | stop => exact Nat.zero_add _ ▸ Nat.le_of_lt hv
  | last _ => exact Nat.add_comm .. ▸ hv
  | hop _ hlt _ _ ih => exact Nat.add_right_comm .. ▸ ih hlt

theorem head_lst {q : Req} {rest : List Req} (h : Hops w access canFill via r0 (q :: rest)) :
    q.lst = r0.lst := by
  cases h with
  | last hp => exact (prepare_lst hp :)
  | hop hp => exact (prepare_lst hp :)

theorem noDowngrade (h : Hops w access canFill via r0 t) : NoDowngrade w t := by
  induction h with
  | stop => trivial
  | last _ => trivial
  | @hop _ _ _ _ _ _ t _ _ hn ht ih =>
    cases t with
    | nil => trivial
    | cons q rest => exact ⟨ht.head_lst ▸ (nextReq_spec hn).1, ih⟩

end Hops

theorem chain_confined {fuel via : Nat} {t : List Req} {o : Outcome} (hc : Confined w r0)
    (h : chain w access canFill fuel via r0 = (t, o)) : ∀ q ∈ t, Confined w q := by
  have ht := (chain_hops w access canFill fuel via r0).confined hc
  rwa [h] at ht

theorem runAuth_confined (w : World) (canFill : Nat → Bool) (fuel : Nat) (access : Bool) (orig : Req)
    (ho : Confined w orig) : ∀ q ∈ runAuth w canFill fuel access orig, Confined w q := by
  fun_induction runAuth w canFill fuel access orig
  · exact List.forall_mem_nil _
  · next ih => exact List.forall_mem_append.mpr ⟨chain_confined ho ‹_›, ih ho⟩
  · exact chain_confined ho ‹_›

end Rd2
