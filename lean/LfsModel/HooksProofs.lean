import LfsModel.Hooks
import LfsModel.PtrText
/-
What `matchFile`, `uninstall` and `setAttr` return, read off their definitions case by case; and the
templates that `normalize` gives back as they are (`tidy`), which is why the hooks git-lfs writes are
recognised as its own.
-/
namespace Hk
variable {limit : Nat} {h : HookSpec} {f : Bytes}

theorem matchFile_eq_current : matchFile limit h f = .current ↔ f.length ≤ limit ∧ normalize f = h.current := by
  grind [matchFile]

theorem matchFile_eq_upgradable : matchFile limit h f = .upgradable ↔
    f.length ≤ limit ∧ normalize f ≠ h.current ∧ (normalize f = [] ∨ normalize f ∈ h.upgradeables) := by
  grind [matchFile]

theorem matchFile_eq_foreign : matchFile limit h f = .foreign ↔
    limit < f.length ∨ normalize f ≠ h.current ∧ normalize f ≠ [] ∧ normalize f ∉ h.upgradeables := by
  grind [matchFile]

/-! ### templates that `normalize` gives back as they are -/

/-- no line of `b` begins with a blank or a tab; `atStart`: `b` itself begins a line -/
def flush : Bool → Bytes → Bool
  | _, [] => true
  | atStart, c :: cs => !(atStart && (c == 32 || c == 9)) && flush (c = 10) cs

theorem undentAux_of_flush {b : Bytes} {atStart : Bool} {fuel : Nat} (hl : b.length < fuel)
    (h : flush atStart b = true) : undentAux fuel b atStart = b := by
  induction b generalizing atStart fuel with
  | nil => cases fuel <;> rfl
  | cons c cs ih =>
    obtain ⟨fuel, rfl⟩ := Nat.exists_eq_add_one_of_ne_zero (Nat.ne_zero_of_lt hl)
    rw [flush, Bool.and_eq_true, Bool.not_eq_true'] at h
    have hno : ¬(atStart = true ∧ (c = 32 ∨ c = 9)) := fun ⟨ha, hc⟩ =>
      Bool.false_ne_true (h.1.symm.trans (by rcases hc with rfl | rfl <;> rw [ha] <;> rfl))
    rw [undentAux, if_neg hno, ih (Nat.lt_of_succ_lt_succ hl) h.2]

/-- `tidy atStart t`: `t` followed by a newline is `flush`, and `t` ends in a printable ASCII byte — in one pass,
so that it is cheap to evaluate on the regenerated templates -/
def tidy : Bool → Bytes → Bool
  | _, [] => false
  | atStart, [c] => !(atStart && (c == 32 || c == 9)) && decide (33 ≤ c.toNat ∧ c.toNat < 128)
  | atStart, c :: d :: cs => !(atStart && (c == 32 || c == 9)) && tidy (c = 10) (d :: cs)

theorem tidy_spec {atStart : Bool} {t : Bytes} (h : tidy atStart t = true) :
    flush atStart (t ++ [10]) = true ∧ ∃ d, t.getLast? = some d ∧ 33 ≤ d.toNat ∧ d.toNat < 128 := by
  fun_induction tidy atStart t with
  | case1 => cases h
  | case2 atStart c =>
    rw [Bool.and_eq_true, decide_eq_true_eq] at h
    refine ⟨?_, c, rfl, h.2⟩
    -- the final newline begins no line of its own that could be indented
    rw [List.singleton_append, flush, h.1, flush, flush, Bool.and_true, Bool.true_and, Bool.not_eq_true',
      Bool.and_eq_false_iff]
    exact .inr rfl
  | case3 atStart c d cs ih =>
    rw [Bool.and_eq_true] at h
    obtain ⟨hf, e, he, hp⟩ := ih h.2
    exact ⟨by rw [List.cons_append, flush, h.1, hf]; rfl, e, by rw [List.getLast?_cons_cons, he], hp⟩

/-- A tidy template that begins with a printable ASCII byte is what `normalize` makes of the file `write`
produces from it. -/
theorem normalize_of_tidy {t : Bytes} {c : UInt8} (hc : t.head? = some c) (hc1 : 33 ≤ c.toNat) (hc2 : c.toNat < 128)
    (ht : tidy true t = true) : normalize (t ++ [10]) = t := by
  obtain ⟨hf, d, hd, hd1, hd2⟩ := tidy_spec ht
  rw [normalize, undent, undentAux_of_flush (Nat.lt_succ_self _) hf]
  exact Lfs.trimSpace_line hc hd hc1 hc2 hd1 hd2

theorem uninstall_of_ne_foreign {file : Option Bytes} (hown : ∀ f, file = some f → matchFile limit h f ≠ .foreign) :
    uninstall limit h file = (none, false) := by
  fun_cases uninstall limit h file
  · rfl
  · next f hm => exact absurd hm (hown f rfl)
  · rfl

theorem setAttr_fst (force : Bool) (current value : Bytes) (ups : List Bytes) :
    (setAttr force current value ups).1 = if force ∨ current.isEmpty ∨ ups.contains current then value else current := by
  rw [setAttr, apply_ite Prod.fst, apply_ite Prod.fst, ite_self]

end Hk
