/-
C13 — which paths `git lfs fsck --pointers` expects to hold a pointer (lfs/gitscanner_tree.go:
catFileBatchTreeForPointers builds an ordered list of rules from the attribute lines, attrRules.Allows lets the
last matching one decide), against Git's own rule (the LAST line that matches the path
and says something about `filter` decides).  The lines are seen from ONE path: `hit` says whether the line's
pattern matches that path (pattern matching itself is wildmatch's business; the correspondence check computes
`hit` for the harness's patterns and compares the outcome with what fsck names).  Core-only.
-/
namespace AttrFilter

structure Line where
  hit : Bool          -- the pattern matches the path
  hasFilter : Bool    -- the line sets or unsets `filter`
  lfs : Bool          -- … to `lfs`
  deriving Repr, DecidableEq

/-- Git: the last matching line that mentions `filter` decides; none: not tracked -/
def gitSays : List Line → Bool
  | [] => false
  | l :: rest => if l.hit && l.hasFilter then (if (rest.any fun m => m.hit && m.hasFilter) then gitSays rest else l.lfs) else gitSays rest

/-- fsck (after the D21 repair): the rules are walked in order — the files higher up first, then line by line — and
    every matching line that mentions `filter` overrides what was decided so far.  A line without `filter`
    (`*.dat lockable`) is no rule at all (D71). -/
def fsckSays (ls : List Line) : Bool :=
  ls.foldl (fun acc l => if l.hit && l.hasFilter then l.lfs else acc) false

theorem gitSays_none (ls : List Line) (h : (ls.any fun m => m.hit && m.hasFilter) = false) : gitSays ls = false := by
  induction ls with
  | nil => rfl
  | cons l rest ih =>
    rw [List.any_cons, Bool.or_eq_false_iff] at h
    rw [gitSays, h.1, ih h.2]
    rfl

theorem foldl_eq_gitSays (ls : List Line) (acc : Bool) :
    ls.foldl (fun acc l => if l.hit && l.hasFilter then l.lfs else acc) acc
      = if (ls.any fun m => m.hit && m.hasFilter) then gitSays ls else acc := by
  induction ls generalizing acc with
  | nil => rfl
  | cons l rest ih =>
    rw [List.foldl_cons, ih, gitSays, List.any_cons]
    cases l.hit && l.hasFilter <;> rfl

/-- **C13.expected_pointer_paths_are_exactly_the_tracked_ones** (D21: false of the tree scanner before its repair) -/
theorem fsck_eq_git (ls : List Line) : fsckSays ls = gitSays ls := by
  rw [fsckSays, foldl_eq_gitSays]
  cases h : ls.any fun m => m.hit && m.hasFilter
  · exact (gitSays_none ls h).symm
  · rfl

/-- a line that does not decide (it misses the path, or says nothing about `filter`) changes neither verdict,
    wherever it stands: fsck's walk steps over it -/
theorem line_irrelevant (pre post : List Line) (l : Line) (h : (l.hit && l.hasFilter) = false) :
    fsckSays (pre ++ l :: post) = fsckSays (pre ++ post) ∧ gitSays (pre ++ l :: post) = gitSays (pre ++ post) := by
  have hf : fsckSays (pre ++ l :: post) = fsckSays (pre ++ post) := by
    simp only [fsckSays, List.foldl_append, List.foldl_cons, h, Bool.false_eq_true, if_false]
  exact ⟨hf, by rw [← fsck_eq_git, hf, fsck_eq_git]⟩

theorem other_paths_lines_irrelevant (pre post : List Line) (l : Line) (h : l.hit = false) :
    fsckSays (pre ++ l :: post) = fsckSays (pre ++ post) ∧ gitSays (pre ++ l :: post) = gitSays (pre ++ post) :=
  line_irrelevant pre post l (by rw [h, Bool.false_and])

example : fsckSays [⟨true, true, true⟩, ⟨true, false, false⟩] = true ∧ gitSays [⟨true, true, true⟩, ⟨true, false, false⟩] = true := by decide

end AttrFilter
