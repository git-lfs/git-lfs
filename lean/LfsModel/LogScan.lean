import LfsModel.Pointer
import LfsModel.Gen
/-
C05 (and C03/C04's recent fetches) — the parser of `git log -p` output, lfs/gitscanner_log.go:
logScanner.scan.  Lines are classified by four regular expressions (`classify`, hand-written
matchers), the state machine over the classified lines is `step`.
-/
namespace LogScan
open Lfs

inductive Kind where
  | commit                         -- lfs-commit-sha: <sha> <parents…>
  | file (a b : Bytes)             -- diff --git a/<a> b/<b>
  | merge (f : Bytes)              -- diff --cc <f>
  | data (sign : UInt8) (text : Bytes)   -- [+- ](one of Gen.logDataPrefixes)…; text = line without the sign
  | other
  deriving Repr, DecidableEq

def isPrefix : Bytes → Bytes → Bool
  | [], _ => true
  | _ :: _, [] => false
  | a :: as, b :: bs => a == b && isPrefix as bs

def isHex (c : UInt8) : Bool := (48 ≤ c && c ≤ 57) || (97 ≤ c && c ≤ 102)
def isSpaceRe (c : UInt8) : Bool := c == 9 || c == 10 || c == 12 || c == 13 || c == 32   -- Go regexp \s

def sCommit : Bytes := [108, 102, 115, 45, 99, 111, 109, 109, 105, 116, 45, 115, 104, 97, 58, 32]   -- "lfs-commit-sha: " (spelt as bytes: `decide` does not reduce String.toUTF8)
def sDiffGit : Bytes := [100, 105, 102, 102, 32, 45, 45, 103, 105, 116, 32]   -- "diff --git "
def sDiffCc : Bytes := [100, 105, 102, 102, 32, 45, 45, 99, 99, 32]   -- "diff --cc "
/-- the literal alternatives of `pointerDataRegex`, regenerated from lfs/gitscanner_log.go on every run -/
def dataPrefixes : List Bytes := Gen.logDataPrefixes

/-- `(.+?)\s+"?b\/(.+)` on the text after `a/`: the leftmost-lazy split -/
def splitAB : Bytes → Bytes → Option (Bytes × Bytes)
  | _, [] => none
  | acc, c :: rest =>
    -- try to end the first group here (it must be non-empty): `c` must start the blank run
    let tryHere : Option (Bytes × Bytes) :=
      if acc.isEmpty || !isSpaceRe c then none else
      let afterWs := rest.dropWhile isSpaceRe
      -- the run `\s+` may also stop early, but `"?b/` cannot start with a blank, so only the full run can match
      let afterQ := if afterWs.head? == some 34 then afterWs.drop 1 else afterWs
      match afterQ with
      | 98 :: 47 :: b => if b.isEmpty then none else some (acc, b)
      | _ =>
        -- without consuming the quote (the `"?` is optional)
        match afterWs with
        | 98 :: 47 :: b => if b.isEmpty then none else some (acc, b)
        | _ => none
    match tryHere with
    | some r => some r
    | none => splitAB (acc ++ [c]) rest

def classify (line : Bytes) : Kind :=
  if isPrefix sCommit line && ((line.drop sCommit.length).takeWhile isHex).length ≥ 40 then .commit
  else if isPrefix sDiffGit line then
    let r := line.drop sDiffGit.length
    let r := if r.head? == some 34 then r.drop 1 else r
    match r with
    | 97 :: 47 :: rest => (match splitAB [] rest with
        | some (a, b) => .file a b
        | none => if isPrefix sDiffCc line then .other else .other)
    | _ => .other
  else if isPrefix sDiffCc line && (line.drop sDiffCc.length).length ≥ 1 then .merge (line.drop sDiffCc.length)
  else match line with
    | s :: text =>
      if (s == 43 || s == 45 || s == 32) && dataPrefixes.any (fun p => isPrefix p text) then .data s text else .other
    | [] => .other

structure St where
  data : Bytes
  name : Bytes
  deriving Repr

/-- `setFilename`: a trailing quote is dropped (C-style unquoting of octal escapes is not modelled:
    the correspondence compares names only when they contain no backslash) -/
def setName (n : Bytes) : Bytes := if n.getLast? == some 34 then n.dropLast else n

/-- `finishLastPointer` -/
def finish (st : St) : Option (Bytes × Ptr) :=
  if st.data.isEmpty then none else
  match dec st.data with
  | .ok (p, _) => some (st.name, p)
  | .error _ => none

def step (dir : UInt8) (st : St) : Kind → St × Option (Bytes × Ptr)
  | .commit => ({ st with data := [] }, finish st)
  | .file a b => ({ data := [], name := setName (if dir == 43 then b else a) }, finish st)
  | .merge f => ({ data := [], name := setName f }, finish st)
  | .data s t => (if s == dir || s == 32 then { st with data := st.data ++ t ++ [10] } else st, none)
  | .other => (st, none)

def scanFrom (dir : UInt8) : St → List Kind → List (Bytes × Ptr)
  | st, [] => (finish st).toList
  | st, k :: ks =>
    match step dir st k with
    | (st', some p) => p :: scanFrom dir st' ks
    | (st', none) => scanFrom dir st' ks

def scan (dir : UInt8) (ks : List Kind) : List (Bytes × Ptr) := scanFrom dir { data := [], name := [] } ks

/-- split a log text into lines as `scan()` does (LF-separated, one trailing CR dropped) -/
def lines (b : Bytes) : List Bytes := (Lfs.splitLF b []).map Lfs.dropCR

def scanText (dir : UInt8) (log : Bytes) : List (Bytes × Ptr) := scan dir ((lines log).map classify)

/-- lines that neither end a section nor are headers -/
def isBody : Kind → Bool
  | .data _ _ => true
  | .other => true
  | _ => false

/-- the bytes a section's data lines contribute in direction `dir` -/
def sectionData (dir : UInt8) : List Kind → Bytes
  | [] => []
  | .data s t :: ks => (if s == dir || s == 32 then t ++ [10] else []) ++ sectionData dir ks
  | _ :: ks => sectionData dir ks

theorem scanFrom_cons (dir : UInt8) (st : St) (k : Kind) (ks : List Kind) :
    scanFrom dir st (k :: ks) = (step dir st k).2.toList ++ scanFrom dir (step dir st k).1 ks := by
  rw [scanFrom]
  cases step dir st k with
  | mk st' r => cases r <;> rfl

theorem scanFrom_body (dir : UInt8) (body : List Kind) (hb : ∀ k ∈ body, isBody k = true)
    (st : St) (rest : List Kind) :
    scanFrom dir st (body ++ rest) = scanFrom dir { st with data := st.data ++ sectionData dir body } rest := by
  induction body generalizing st with
  | nil => simp [sectionData]
  | cons k ks ih =>
    have hks : ∀ k' ∈ ks, isBody k' = true := fun k' h => hb k' (List.mem_cons_of_mem k h)
    cases k with
    | commit | file | merge => cases hb _ List.mem_cons_self
    | other => exact ih hks st
    | data s t =>
      simp only [List.cons_append, scanFrom, step, sectionData]
      rw [ih hks]
      split <;> simp

theorem finish_eq_some {st : St} {p : Ptr} {c : Bool} (hne : st.data ≠ []) (hd : dec st.data = .ok (p, c)) :
    finish st = some (st.name, p) := by
  simp only [finish, List.isEmpty_iff, hne, if_false, hd]

theorem isPrefix_append (p rest : Bytes) : isPrefix p (p ++ rest) = true := by
  induction p with
  | nil => rfl
  | cons a as ih => exact Bool.and_eq_true_iff.mpr ⟨decide_eq_true rfl, ih⟩

/-- a diff line (added, removed or context) whose text begins with one of the data prefixes is pointer data:
    the three header patterns begin with a letter, not with a diff sign -/
theorem classify_data (s : UInt8) (text : Bytes) (hs : s = 43 ∨ s = 45 ∨ s = 32)
    (hp : ∃ p ∈ dataPrefixes, isPrefix p text = true) : classify (s :: text) = .data s text := by
  have hany : dataPrefixes.any (fun p => isPrefix p text) = true := List.any_eq_true.mpr hp
  obtain ⟨hsign, hl, hd⟩ :
      (s == 43 || s == 45 || s == 32) = true ∧ ((108 : UInt8) == s) = false ∧ ((100 : UInt8) == s) = false := by
    rcases hs with rfl | rfl | rfl <;> decide
  simp only [classify, sCommit, sDiffGit, sDiffCc, isPrefix, hl, hd, hsign, hany, Bool.false_and, Bool.and_self,
    Bool.false_eq_true, if_false, if_true]

end LogScan
