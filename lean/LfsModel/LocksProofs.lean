/-
What one operation of the lock client does to the server's table and to the cache (Locks.lean).
-/
import LfsModel.Locks

namespace Lk

theorem byId_some {t : Table} {i : Nat} {l : Lock} (h : byId t i = some l) : l ∈ t ∧ l.id = i :=
  ⟨List.mem_of_find?_eq_some h, by simpa using List.find?_some h⟩

theorem doUnlockId_cases (s : St) (i : Nat) (force modified : Bool) (srv : Srv) :
    doUnlockId s i force modified srv = s ∨
      ∃ l, byId s.table i = some l ∧ (l.owner = me ∨ force = true) ∧
        doUnlockId s i force modified srv =
          { s with table := s.table.erase l, cache := s.cache.filter fun x => x.id != i } := by
  -- only the third branch of `doUnlockId` changes the state: the server, asked, releases the lock
  fun_cases doUnlockId s i force modified srv
  · exact .inl rfl
  · exact .inl rfl
  · next t' ht =>
    revert ht
    fun_cases serverUnlock s.table i force <;> rintro ⟨⟩
    next l hl ho => exact .inr ⟨l, hl, by simpa using ho, rfl⟩
  · exact .inl rfl
theorem doUnlockPath_cases (s : St) (p : Nat) (force modified : Bool) (srv : Srv) :
    doUnlockPath s p force modified srv = s ∨
      ∃ i, doUnlockPath s p force modified srv = doUnlockId s i force false srv := by
  fun_cases doUnlockPath s p force modified srv
  · exact Or.inl rfl
  · exact Or.inr ⟨_, rfl⟩
  · exact Or.inl rfl

/-- the changes an operation can make to table and cache, whatever its flags and the server's answer -/
inductive Effect (s : St) (op : Op) : St → Prop
  | nothing : Effect s op s
  | locked (l : Lock) : l.owner = me →
      Effect s op { table := s.table ++ [l], cache := s.cache ++ [l], nextId := s.nextId + 1 }
  | unlocked (l : Lock) : l ∈ s.table →
      Effect s op { s with table := s.table.erase l, cache := s.cache.filter fun x => x.id != l.id }
  | verified (srv : Srv) : op = .verify srv → Effect s op { s with cache := s.table }
  | otherLocked (l : Lock) : l.owner ≠ me →
      Effect s op { s with table := s.table ++ [l], nextId := s.nextId + 1 }
  | otherUnlocked (l : Lock) : l.owner ≠ me → Effect s op { s with table := s.table.erase l }

theorem doUnlockId_effect (s : St) (op : Op) (i : Nat) (force modified : Bool) (srv : Srv) :
    Effect s op (doUnlockId s i force modified srv) := by
  rcases doUnlockId_cases s i force modified srv with h | ⟨l, hl, _, h⟩
  · rw [h]
    exact .nothing
  · obtain ⟨hmem, rfl⟩ := byId_some hl
    rw [h]
    exact .unlocked l hmem

theorem step_effect (s : St) (op : Op) : Effect s op (step s op) := by
  -- the branches of `step` in the order of its definition: `otherLock` has two, `otherUnlock` three
  fun_cases step s op
  next p srv =>
    fun_cases doLock s p srv
    · exact .locked _ rfl
    · exact .nothing
  next p force modified srv =>
    rcases doUnlockPath_cases s p force modified srv with h | ⟨i, h⟩
    · rw [h]
      exact .nothing
    · rw [h]
      exact doUnlockId_effect ..
  next => exact doUnlockId_effect ..
  next srv =>
    cases srv with
    | refuse => exact .nothing
    | ok => exact .verified _ rfl
  next => exact .nothing
  next p who h => exact .otherLocked ⟨s.nextId, p, who⟩ (by simp_all)
  next l _ h => exact .otherUnlocked l (by simpa using h)
  next => exact .nothing
  next => exact .nothing

theorem writableAfterFix_iff {cache : Cache} {p : Nat} :
    writableAfterFix cache p = true ↔ ∃ l ∈ cache, l.path = p := by
  simp only [writableAfterFix, List.any_eq_true, beq_iff_eq]

theorem pushRejected_iff {v : Bool} {t : Table} {touched : List Nat} :
    pushRejected v t touched = true ↔ v = true ∧ ∃ l ∈ t, l.owner ≠ me ∧ l.path ∈ touched := by
  simp only [pushRejected, theirs, Bool.and_eq_true, List.any_eq_true, List.mem_filter, bne_iff_ne,
    beq_iff_eq]
  constructor
  · rintro ⟨hv, p, hp, l, ⟨hl, ho⟩, rfl⟩
    exact ⟨hv, l, hl, ho, hp⟩
  · rintro ⟨hv, l, hl, ho, hp⟩
    exact ⟨hv, _, hp, l, ⟨hl, ho⟩, rfl⟩

end Lk
