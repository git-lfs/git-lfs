/-
The set-level argument of C03 with every premise explicit.
-/
namespace Push

abbrev Commit := Nat
abbrev Oid := Nat

structure Repo where
  parents : Commit → List Commit
  objs : Commit → List Oid          -- LFS objects referenced by the commit's tree

/-- ancestors-or-self of a set of tips -/
inductive Reach (r : Repo) (tips : List Commit) : Commit → Prop
  | tip {c} : c ∈ tips → Reach r tips c
  | parent {c p} : Reach r tips c → p ∈ r.parents c → Reach r tips p

theorem reach_mono (r : Repo) {a b : List Commit} (h : ∀ c ∈ a, Reach r b c) {c : Commit}
    (hc : Reach r a c) : Reach r b c := by
  induction hc with
  | tip hm => exact h _ hm
  | parent _ hp ih => exact Reach.parent ih hp

theorem reach_append (r : Repo) {a b : List Commit} {c : Commit} (hc : Reach r (a ++ b) c) :
    Reach r a c ∨ Reach r b c := by
  induction hc with
  | tip hm => exact (List.mem_append.mp hm).imp Reach.tip Reach.tip
  | parent _ hp ih => exact ih.imp (Reach.parent · hp) (Reach.parent · hp)

/-- every LFS object of every commit reachable from the remote's refs is on the server -/
def ServerInv (r : Repo) (refs : List Commit) (S : Oid → Prop) : Prop :=
  ∀ c, Reach r refs c → ∀ o ∈ r.objs c, S o

/-- what `git rev-list --objects L ^E…` is assumed to guarantee (git's semantics, trusted; the C03 scenarios compare
every uploaded set with real git's rev-list): every object of a listed commit is listed unless it also belongs to a
commit reachable from the exclude side -/
def RevListLower (r : Repo) (L : Commit) (E : List Commit) (listed : Oid → Prop) : Prop :=
  ∀ c, Reach r [L] c → ¬ Reach r E c → ∀ o ∈ r.objs c,
    listed o ∨ ∃ c', Reach r E c' ∧ o ∈ r.objs c'

/-- **C03.push_preserves_server_inv**.  The premises are assumptions; only `hE` is derived from the model of the
code, and in part (C03.exclude_only_remote_commits_partial):
`hE`  every excluded commit is reachable from the remote's refs as they are at the push (D23, D24 break it);
`hL`  the rev-list lower bound;
`hU`  every listed object is on the server after a push that exited 0 (D19 breaks it);
`hS`  the server only gains objects. -/
theorem push_preserves_server_inv (r : Repo) (R E : List Commit) (L : Commit)
    (S S' : Oid → Prop) (listed : Oid → Prop)
    (hinv : ServerInv r R S)
    (hE : ∀ e ∈ E, Reach r R e)
    (hL : RevListLower r L E listed)
    (hU : ∀ o, listed o → S' o)
    (hS : ∀ o, S o → S' o) :
    ServerInv r (L :: R) S' := by
  intro c hc o ho
  rcases reach_append r (a := [L]) hc with hLc | hR
  · -- a commit the scan excludes is covered by the old invariant, like everything rev-list leaves out
    by_cases hEc : Reach r E c
    · exact hS o (hinv c (reach_mono r hE hEc) o ho)
    · rcases hL c hLc hEc o ho with h | ⟨c', hc', ho'⟩
      · exact hU o h
      · exact hS o (hinv c' (reach_mono r hE hc') o ho')
  · exact hS o (hinv c hR o ho)

#print axioms push_preserves_server_inv
end Push
