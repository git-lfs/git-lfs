/-
C15 / C06 — how often lfsapi.Client.DoWithAuth submits one request (lfsapi/auth.go: DoWithAuth →
doWithAuthResubmit → doWithAuth).  A submission is answered; `again k` says whether the k-th answer is an
authentication error that left the request without an Authorization header (the credentials git-lfs had
filled in were rejected, or none had been sent yet) — the one case in which the request is submitted again.
`fuel` is the number of resubmissions still allowed.  Core-only.
-/
namespace AuthLoop

/-- the number of submissions, starting with the k-th -/
def submissions (again : Nat → Bool) : Nat → Nat → Nat
  | 0, _ => 1
  | fuel + 1, k => if again k then 1 + submissions again fuel (k + 1) else 1

/-- **C15.auth_resubmissions_bounded** -/
theorem submissions_le (again : Nat → Bool) (fuel k : Nat) : submissions again fuel k ≤ fuel + 1 := by
  induction fuel generalizing k with
  | zero => exact Nat.le_refl 1
  | succ n ih =>
    unfold submissions
    split
    · rw [Nat.add_comm 1]
      exact Nat.succ_le_succ (ih (k + 1))
    · exact Nat.le_add_left 1 (n + 1)

/-- **C15.auth_resubmissions_always_refused** (D73: before the repair there was no fuel and this loop never ended) -/
theorem submissions_always (fuel k : Nat) : submissions (fun _ => true) fuel k = fuel + 1 := by
  induction fuel generalizing k with
  | zero => rfl
  | succ n ih => rw [submissions, if_pos rfl, ih, Nat.add_comm]

theorem submissions_stop (again : Nat → Bool) (fuel k : Nat) (h : again k = false) : submissions again fuel k = 1 := by
  cases fuel <;> simp [submissions, h]

example : submissions (fun k => k < 2) 3 0 = 3 := by decide

end AuthLoop
