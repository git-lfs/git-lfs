/-
What Git makes of the text `--filename` writes: it lexes to the literal tokens of the name, those tokens match
the names equal to it up to whitespace in the place of a blank, and the text holds no blank or tab, so the
tokeniser of the attribute line returns it whole.
-/
import LfsModel.Track
namespace Trk

theorem isGlobChar_iff {c : UInt8} : isGlobChar c = true ↔ c = 42 ∨ c = 91 ∨ c = 93 ∨ c = 63 := by
  simp [isGlobChar, or_assoc]

theorem lex_plain (c : UInt8) (rest : Bytes) (h92 : c ≠ 92) (h42 : c ≠ 42) (h63 : c ≠ 63) (h91 : c ≠ 91) :
    lex (c :: rest) = .lit c :: lex rest := by
  simp [lex, *]

theorem lex_escGlobChar (c : UInt8) (rest : Bytes) : lex (escGlobChar c ++ rest) = tokOf c :: lex rest := by
  -- the branches of `escGlobChar`, in its order: backslash, glob character, blank, `#`, any other character
  fun_cases escGlobChar c
  · simp_all [lex, tokOf]
  · next hg => obtain rfl | rfl | rfl | rfl := isGlobChar_iff.mp hg <;> rfl
  · simp_all [lex, tokOf, spaceClass]
  · simp_all [lex, tokOf]
  · next h92 hg h32 _ =>
    simp only [isGlobChar_iff, not_or] at hg
    simp [tokOf, h32, lex_plain c rest h92 hg.1 hg.2.2.2 hg.2.1]

/-- **C19.filename_is_literal** -/
theorem lex_escapeGlob (n : Bytes) : lex (escapeGlob n) = toks n := by
  induction n with
  | nil => rfl
  | cons c cs ih =>
    rw [escapeGlob, List.flatMap_cons, lex_escGlobChar, ← escapeGlob, ih]
    rfl

/-- equal, except that where the first name has a blank the second has any whitespace character -/
def SameModuloSpace : Bytes → Bytes → Prop
  | [], [] => True
  | c :: cs, d :: ds => (if c = 32 then isSpace d = true else d = c) ∧ SameModuloSpace cs ds
  | _, _ => False

theorem matchLit_toks (n q : Bytes) : matchLit (toks n) q = true ↔ SameModuloSpace n q := by
  induction n generalizing q with
  | nil => cases q <;> simp [toks, matchLit, SameModuloSpace]
  | cons c cs ih =>
    cases q with
    | nil =>
      simp only [toks, List.map_cons, tokOf]
      split <;> simp [matchLit, SameModuloSpace]
    | cons d ds =>
      rw [SameModuloSpace, ← ih]
      simp only [toks, List.map_cons, tokOf]
      split <;> simp [matchLit, eq_comm (a := c)]

/-- **what `--filename` writes matches, as Git reads it, the name itself and what differs from it only by
    other whitespace in the place of a blank** -/
theorem matchLit_escapeGlob (n q : Bytes) : matchLit (lex (escapeGlob n)) q = true ↔ SameModuloSpace n q := by
  rw [lex_escapeGlob, matchLit_toks]

theorem sameModuloSpace_refl (n : Bytes) : SameModuloSpace n n := by
  induction n with
  | nil => trivial
  | cons c cs ih =>
    refine ⟨?_, ih⟩
    split
    · subst c
      rfl
    · rfl

theorem sameModuloSpace_noblank (n : Bytes) (hn : (32 : UInt8) ∉ n) (q : Bytes) (h : SameModuloSpace n q) : q = n := by
  induction n generalizing q with
  | nil => cases q <;> simp_all [SameModuloSpace]
  | cons c cs ih =>
    cases q with
    | nil => simp [SameModuloSpace] at h
    | cons d ds =>
      rw [List.mem_cons, not_or] at hn
      rw [SameModuloSpace, if_neg (Ne.symm hn.1)] at h
      rw [h.1, ih hn.2 ds h.2]

theorem escGlobChar_noblank (c : UInt8) (hc : c ≠ 9) : ∀ x ∈ escGlobChar c, x ≠ 32 ∧ x ≠ 9 := by
  fun_cases escGlobChar c
  · decide
  · next hg => obtain rfl | rfl | rfl | rfl := isGlobChar_iff.mp hg <;> decide
  · decide
  · decide
  · next h32 _ => exact List.forall_mem_singleton.mpr ⟨h32, hc⟩

/-- the escaped text contains neither a blank nor a tab (unless the name has a tab): Git's line
    tokeniser returns it whole as the pattern field -/
theorem escapeGlob_noblank (n : Bytes) (hn : ∀ c ∈ n, c ≠ 9) : ∀ x ∈ escapeGlob n, x ≠ 32 ∧ x ≠ 9 := by
  intro x hx
  obtain ⟨c, hc, hxc⟩ := List.mem_flatMap.mp hx
  exact escGlobChar_noblank c (hn c hc) x hxc

theorem firstField_append_noblank (a rest : Bytes) (ha : ∀ x ∈ a, x ≠ 32 ∧ x ≠ 9) :
    firstField (a ++ 32 :: rest) = a := by
  induction a with
  | nil => simp [firstField]
  | cons c cs ih =>
    rw [List.forall_mem_cons] at ha
    simp [firstField, ha.1, ih ha.2]

/-- what `unescapeAttr` makes of one escaped character followed by anything: the character, then the rest unescaped —
    except `[`, which `escAttrChar` leaves as it is and which may open a `[[:space:]]` together with the rest -/
theorem unescape_escAttrChar (c : UInt8) (rest : Bytes) (hsafe : c ≠ 91 ∨ True) :
    unescapeAttr (escAttrChar c ++ rest) = (if c = 91 then unescapeAttr (91 :: rest) else c :: unescapeAttr rest) := by
  fun_cases escAttrChar c
  · simp_all [unescapeAttr]
  · simp_all [unescapeAttr, spaceClass]
  · simp_all [unescapeAttr]
  · split
    · simp_all
    · simp_all [unescapeAttr]

end Trk
