import LfsModel.Prune
/-
Membership in the sets that `prune` computes, and when it halts.
-/
namespace Pr

variable {f : Flags} {o : Oid} {localObjs retained cands reachable verified : List Oid} {vu : Bool}

theorem mem_candidates : o ∈ candidates localObjs retained ↔ o ∈ localObjs ∧ o ∉ retained := by
  simp [candidates]

theorem mem_verifySplit_fst :
    o ∈ (verifySplit cands reachable verified vu).1 ↔
      o ∈ cands ∧ (o ∈ verified ∨ vu = false ∧ o ∉ reachable) := by
  simp [verifySplit]

theorem mem_verifySplit_snd :
    o ∈ (verifySplit cands reachable verified vu).2 ↔
      o ∈ cands ∧ o ∉ verified ∧ (vu = true ∨ o ∈ reachable) := by
  simp [verifySplit]

theorem halts_iff :
    halts f localObjs retained reachable verified = true ↔
      f.verifyRemote = true ∧ f.continueWhenUnverified = false ∧
      ∃ o, o ∈ (verifySplit (candidates localObjs retained) reachable verified f.verifyUnreachable).2 := by
  unfold halts
  rw [Bool.and_eq_true, Bool.and_eq_true, Bool.not_eq_true', Bool.not_eq_true',
    List.isEmpty_eq_false_iff_exists_mem, and_assoc]

theorem prune_of_halts (h : halts f localObjs retained reachable verified = true) :
    prune f localObjs retained reachable verified = { deleted := [], halted := true } := by
  simp [prune, h]

theorem mem_deleted :
    o ∈ (prune f localObjs retained reachable verified).deleted ↔
      halts f localObjs retained reachable verified = false ∧ f.dryRun = false ∧
      o ∈ candidates localObjs retained ∧
      (f.verifyRemote = true → o ∈ verified ∨ f.verifyUnreachable = false ∧ o ∉ reachable) := by
  simp only [prune, List.mem_ite_nil_left, Bool.or_eq_true, not_or, Bool.not_eq_true, and_assoc]
  cases f.verifyRemote <;> simp [mem_verifySplit_fst]

theorem candidates_of_mem_deleted (h : o ∈ (prune f localObjs retained reachable verified).deleted) :
    o ∈ candidates localObjs retained :=
  (mem_deleted.mp h).2.2.1

theorem mem_retainedRecent {now : Int} {refsDays commitsDays offsetDays : Nat} {refs : List RefT} :
    o ∈ retainedRecent now refsDays commitsDays offsetDays refs ↔
      ∃ r ∈ refs, (r.isHead = true ∨ refIsRecent now r.tip refsDays offsetDays = true) ∧
        ∃ c ∈ r.commits, commitIsRecent r.tip c.1 commitsDays offsetDays = true ∧ o ∈ c.2 := by
  simp only [retainedRecent, List.mem_flatMap, List.mem_filter, Bool.or_eq_true, and_assoc]

end Pr
