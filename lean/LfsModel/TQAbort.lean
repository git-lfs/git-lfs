/-
tq/transfer_queue.go abortableWaitGroup: the counter Wait() blocks on.  `wq` is the value of the
sync.WaitGroup inside, `counter` the queue's own tally of outstanding objects.
Core-only, executable (Oracle `C06 awg`).
-/
namespace TQAbort

structure G where
  counter : Int := 0
  wq : Int := 0
  abort : Bool := false
deriving Repr, DecidableEq

inductive Op | add (d : Nat) | done | abort
deriving Repr, DecidableEq

def step (g : G) : Op → G
  | .add d => if g.abort then g else { g with counter := g.counter + d, wq := g.wq + d }
  | .done => if g.abort then g else { g with counter := g.counter - 1, wq := g.wq - 1 }
  | .abort => { g with abort := true, wq := g.wq - g.counter }

def run (g : G) (ops : List Op) : G := ops.foldl step g

/-- Wait() returns exactly when the WaitGroup is at zero -/
def waitReturns (g : G) : Bool := g.wq == 0

theorem run_append (g : G) (a b : List Op) : run g (a ++ b) = run (run g a) b :=
  List.foldl_append

/-- before an abort the WaitGroup counts exactly the outstanding objects -/
theorem no_abort_inv (ops : List Op) (h : ∀ o ∈ ops, o ≠ .abort) (g : G)
    (hg : g.abort = false ∧ g.wq = g.counter) :
    (run g ops).abort = false ∧ (run g ops).wq = (run g ops).counter := by
  refine List.foldlRecOn (motive := fun g => g.abort = false ∧ g.wq = g.counter) ops step hg ?_
  intro g ⟨ha, hw⟩ o ho
  cases o with
  | abort => exact absurd rfl (h _ ho)
  | add d => simp only [step, ha, hw, Bool.false_eq_true, if_false, and_self]
  | done => simp only [step, ha, hw, Bool.false_eq_true, if_false, and_self]

theorem step_aborted (g : G) (o : Op) (ha : g.abort = true) (ho : o ≠ .abort) : step g o = g := by
  cases o with
  | abort => exact absurd rfl ho
  | add d => exact if_pos ha
  | done => exact if_pos ha

theorem run_aborted (g : G) (ops : List Op) (ha : g.abort = true) (h : ∀ o ∈ ops, o ≠ .abort) : run g ops = g :=
  List.foldlRecOn (motive := (· = g)) ops step rfl fun g' hg o ho => by rw [hg, step_aborted g o ha (h o ho)]

/-- **C06.wait_returns_once_the_queue_gave_up**: the queue aborts once (it leaves its loop right after) -/
theorem wait_returns_after_abort (pre post : List Op) (hpre : ∀ o ∈ pre, o ≠ .abort) (hpost : ∀ o ∈ post, o ≠ .abort) :
    waitReturns (run {} (pre ++ [.abort] ++ post)) = true := by
  obtain ⟨-, hw⟩ := no_abort_inv pre hpre {} ⟨rfl, rfl⟩
  rw [run_append, run_append, run_aborted _ post rfl hpost]
  -- the abort itself takes the outstanding count off the WaitGroup
  show ((run {} pre).wq - (run {} pre).counter == 0) = true
  rw [hw, Int.sub_self]
  rfl

/-- **C06.wait_returns_when_all_is_finished** -/
theorem wait_returns_iff_balanced (ops : List Op) (h : ∀ o ∈ ops, o ≠ .abort) :
    waitReturns (run {} ops) = true ↔ (run {} ops).counter = 0 := by
  obtain ⟨-, hw⟩ := no_abort_inv ops h {} ⟨rfl, rfl⟩
  simp only [waitReturns, hw, beq_iff_eq]

end TQAbort
