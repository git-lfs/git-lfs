/-
Transfer-queue bookkeeping (tq/transfer_queue.go) as an event system over a per-oid
status map.  Core-only.  Oids are Nat.
-/
namespace TQ

abbrev Oid := Nat

inductive Term | delivered | noAction | errored
deriving DecidableEq, Repr

inductive Status
  | unknown                 -- never added
  | incoming                -- sitting in q.incoming
  | waiting                 -- in the collector's next/pending/collected lists
  | inBatch                 -- handed to enqueueAndCollectRetriesFor, reply not yet processed
  | job                     -- handed to the adapter, result not yet handled
  | retryOut                -- on the worker's `next` list, waiting for batchEnd
  | term (t : Term)
deriving DecidableEq, Repr

def Status.live : Status → Bool
  | .unknown => false
  | .term _ => false
  | _ => true

structure State where
  known : List Oid := []            -- first-add order (keys of q.transfers)
  st : Oid → Status := fun _ => .unknown
  adds : Oid → Nat := fun _ => 0    -- chain length
  rc : Oid → Nat := fun _ => 0      -- retry counter
  counter : Int := 0                -- abortableWaitGroup.counter
  aborted : Bool := false
  delivered : List Oid := []        -- one entry per tuple sent to the (single) watcher
  errors : Nat := 0
  waitCalled : Bool := false
  waitReturned : Bool := false
  cap : Nat := 1                    -- capacity of q.incoming
  batchSize : Nat := 1
  maxRetries : Nat := 8

def set (f : Oid → α) (o : Oid) (v : α) : Oid → α := fun x => if x = o then v else f x

def countSt (s : State) (p : Status → Bool) : Nat := s.known.countP (fun o => p (s.st o))

/-- what the server said about one object of the batch -/
inductive ReplyObj | action | noAction | error | expiredAction
deriving DecidableEq, Repr

/-- what the adapter said about one job -/
inductive Outcome | ok | retriable | fatal | unprocessable
deriving DecidableEq, Repr

inductive Ev
  | add (o : Oid)
  | collTake (o : Oid)                       -- collector moves o from q.incoming into next/pending
  | batchStart (os : List Oid)               -- collector hands `os` to a worker
  | reply (o : Oid) (r : ReplyObj)           -- worker processes one object of the batch response
  | batchCallFail (o : Oid) (retriable : Bool) -- batch API call failed: per-object handling
  | jobResult (o : Oid) (out : Outcome)
  | batchEnd (o : Oid)                       -- retries.Concat: o goes back to the collector
  | waitCall
  | waitReturn
deriving Repr

def done (s : State) : State := if s.aborted then s else { s with counter := s.counter - 1 }

/-- retry if budget allows (rc < maxRetries ⇒ rc+1, retryOut) else terminal error + Done -/
def retryOrFail (s : State) (o : Oid) : State :=
  if s.rc o < s.maxRetries then { s with rc := set s.rc o (s.rc o + 1), st := set s.st o .retryOut }
  else done { s with st := set s.st o (.term .errored), errors := s.errors + 1 }

def step (s : State) : Ev → Option State
  | .add o =>
    if s.waitCalled then none else
    match s.st o with
    | .unknown =>
      if countSt s (· == .incoming) < s.cap then
        some { s with known := s.known ++ [o], st := set s.st o .incoming, adds := set s.adds o 1,
                      counter := if s.aborted then s.counter else s.counter + 1 }
      else none                              -- Add blocks
    | .term .delivered =>
      some { s with adds := set s.adds o (s.adds o + 1), delivered := s.delivered ++ [o] }
    | _ => some { s with adds := set s.adds o (s.adds o + 1) }
  | .collTake o =>
    if s.st o = .incoming then some { s with st := set s.st o .waiting } else none
  | .batchStart os =>
    if os.length ≤ s.batchSize ∧ os ≠ [] ∧ os.Nodup ∧ (∀ o ∈ os, s.st o = .waiting)
       ∧ countSt s (fun x => x == .inBatch || x == .job || x == .retryOut) = 0 then
      some { s with st := fun x => if x ∈ os then .inBatch else s.st x }
    else none
  | .reply o r =>
    if s.st o = .inBatch then
      match r with
      | .action => some { s with st := set s.st o .job }
      | .noAction => some (done { s with st := set s.st o (.term .noAction) })
      | .error => some (done { s with st := set s.st o (.term .errored), errors := s.errors + 1 })
      | .expiredAction => some (retryOrFail s o)
    else none
  | .batchCallFail o retriable =>
    if s.st o = .inBatch then
      if retriable then some (retryOrFail s o)
      else some (done { s with st := set s.st o (.term .errored), errors := s.errors + 1 })
    else none
  | .jobResult o out =>
    if s.st o = .job then
      match out with
      | .ok => some (done { s with st := set s.st o (.term .delivered),
                                   delivered := s.delivered ++ List.replicate (s.adds o) o })
      | .retriable => some (retryOrFail s o)
      | .fatal => some (done { s with st := set s.st o (.term .errored), errors := s.errors + 1 })
      | .unprocessable => some (done { s with st := set s.st o (.term .errored), errors := s.errors + 1 })   -- HTTP 422: reported like any fatal outcome (D19 repair)
    else none
  | .batchEnd o =>
    if s.st o = .retryOut ∧ countSt s (fun x => x == .inBatch || x == .job) = 0 then
      some { s with st := set s.st o .waiting }
    else none
  | .waitCall => if s.waitCalled then none else some { s with waitCalled := true }
  | .waitReturn =>
    if s.waitCalled ∧ ¬ s.waitReturned ∧ (s.counter = 0 ∨ s.aborted) then some { s with waitReturned := true }
    else none

def run : State → List Ev → Option State
  | s, [] => some s
  | s, e :: es => match step s e with
    | some s' => run s' es
    | none => none

/-- the accounting invariant: known oids are distinct, unknown ↔ not in `known`,
and (unless aborted) the wait-group counter is the number of live oids -/
structure Inv (s : State) : Prop where
  nodup : s.known.Nodup
  known_iff : ∀ o, o ∈ s.known ↔ s.st o ≠ .unknown
  acc : s.aborted = false → s.counter = (countSt s Status.live : Int)
  deliv : ∀ o ∈ s.delivered, s.st o = .term .delivered

end TQ
