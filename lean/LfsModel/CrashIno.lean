import LfsModel.Crash
/-
C09 with hard links taken seriously.  Crash.lean treats `link` as a copy; on a real file system a link is a
second NAME of the same file, and a write through one name changes what every other name shows.  Here a
file system is a finite map from paths to inode numbers plus the content of every inode, and the storage
discipline has one more clause: nothing is written (appended, truncated) to an inode that has a name in
lfs/objects.  Under that discipline every prefix of every operation list leaves local storage intact.
Core-only, executable (the replay of traced operations runs in this model).
-/
namespace CrashI
open Crash (Path Bytes Oid isObj)

structure Fs where
  names : List (Path × Nat) := []
  data : Nat → Bytes := fun _ => []
  next : Nat := 0

def lookup (fs : Fs) (p : Path) : Option Nat := (fs.names.find? fun e => e.1 == p).map (·.2)

def setName (fs : Fs) (p : Path) (i : Nat) : Fs :=
  { fs with names := (p, i) :: fs.names.filter fun e => !(e.1 == p) }

def delName (fs : Fs) (p : Path) : Fs := { fs with names := fs.names.filter fun e => !(e.1 == p) }

def setData (fs : Fs) (i : Nat) (c : Bytes) : Fs := { fs with data := fun j => if j = i then c else fs.data j }

/-- does some name in lfs/objects denote this inode? -/
def aliasedToObj (fs : Fs) (i : Nat) : Bool := fs.names.any fun e => isObj e.1 && e.2 == i

inductive Op
  | create (p : Path)                  -- O_CREATE|O_TRUNC: a new file, or an existing one emptied
  | write (p : Path) (b : Bytes)       -- one write burst through an open handle of this name
  | truncate (p : Path)
  | rename (src dst : Path)
  | link (src dst : Path)
  | unlink (p : Path)

variable (H : Bytes → Oid)

def step (fs : Fs) : Op → Option Fs
  | .create p =>
      if isObj p then none else
      match lookup fs p with
      | some j => if aliasedToObj fs j then none else some (setData fs j [])
      | none => some { (setName (setData fs fs.next []) p fs.next) with next := fs.next + 1 }
  | .write p b =>
      match lookup fs p with
      | some j => if aliasedToObj fs j then none else some (setData fs j (fs.data j ++ b))
      | none => none
  | .truncate p =>
      match lookup fs p with
      | some j => if aliasedToObj fs j then none else some (setData fs j [])
      | none => none
  | .rename src dst =>
      match lookup fs src with
      | none => none
      | some i =>
        if lookup fs dst = some i then some fs            -- two names of one file: rename(2) does nothing
        else match dst with
          | .obj o => if H (fs.data i) = o ∧ !isObj src then some (setName (delName fs src) dst i) else none
          | _ => some (setName (delName fs src) dst i)
  | .link src dst =>
      match lookup fs src, lookup fs dst with
      | some i, none =>
        (match dst with
         | .obj o => if H (fs.data i) = o then some (setName fs dst i) else none
         | _ => some (setName fs dst i))
      | _, _ => none
  | .unlink p => some (delName fs p)

/-- every name in lfs/objects shows content that hashes to it -/
def Intact (fs : Fs) : Prop := ∀ e ∈ fs.names, ∀ o, e.1 = .obj o → H (fs.data e.2) = o

/-- inode numbers in use lie below the counter: a new file gets an inode no name denotes -/
def Wf (fs : Fs) : Prop := ∀ e ∈ fs.names, e.2 < fs.next

/-! `Intact` and `Wf` both say something of every entry of the name table; what `setName` and `delName` do to
such a statement is said once. -/

theorem forall_setName {Q : Path × Nat → Prop} {fs : Fs} {p : Path} {i : Nat} (hq : Q (p, i))
    (h : ∀ e ∈ fs.names, Q e) : ∀ e ∈ (setName fs p i).names, Q e := by
  intro e he
  simp only [setName, List.mem_cons, List.mem_filter] at he
  rcases he with rfl | he
  · exact hq
  · exact h e he.1

theorem forall_delName {Q : Path × Nat → Prop} {fs : Fs} {p : Path} (h : ∀ e ∈ fs.names, Q e) :
    ∀ e ∈ (delName fs p).names, Q e :=
  fun e he => h e (List.mem_filter.mp he).1

theorem lookup_mem {fs : Fs} {p : Path} {i : Nat} (h : lookup fs p = some i) : (p, i) ∈ fs.names := by
  simp only [lookup, Option.map_eq_some_iff] at h
  obtain ⟨⟨a, b⟩, he, rfl⟩ := h
  have hp := List.find?_some he
  simp only [beq_iff_eq] at hp
  subst hp
  exact List.mem_of_find?_eq_some he

theorem lookup_lt {fs : Fs} (hw : Wf fs) {p : Path} {i : Nat} (h : lookup fs p = some i) : i < fs.next :=
  hw _ (lookup_mem h)

theorem aliasedToObj_iff {fs : Fs} {i : Nat} :
    aliasedToObj fs i = true ↔ ∃ e ∈ fs.names, isObj e.1 = true ∧ e.2 = i := by
  simp only [aliasedToObj, List.any_eq_true, Bool.and_eq_true, beq_iff_eq]

/-- the hypothesis has the form in which a branch of `step` supplies it -/
theorem intact_setData {fs : Fs} {j : Nat} (c : Bytes) (hi : Intact H fs) (ha : ¬aliasedToObj fs j = true) :
    Intact H (setData fs j c) := by
  intro e he o ho
  have hne : e.2 ≠ j := fun h => ha (aliasedToObj_iff.mpr ⟨e, he, by rw [ho]; rfl, h⟩)
  simp only [setData, hne, if_false]
  exact hi e he o ho

/-- a new file's inode has no name yet, so none in lfs/objects -/
theorem fresh_not_aliased {fs : Fs} (hw : Wf fs) : ¬aliasedToObj fs fs.next = true := fun h => by
  obtain ⟨e, he, -, h⟩ := aliasedToObj_iff.mp h
  exact Nat.lt_irrefl _ (h ▸ hw e he)

theorem step_inv (fs fs' : Fs) (op : Op) (hi : Intact H fs) (hw : Wf fs) (hs : step H fs op = some fs') :
    Intact H fs' ∧ Wf fs' := by
  revert hs
  -- the branches of `step` that return `none` go with `rintro ⟨⟩`; the others, in the order of the definition:
  fun_cases step H fs op <;> rintro ⟨⟩
  · next ha => exact ⟨intact_setData H _ hi ha, hw⟩               -- create, of a file that exists: it is emptied
  · next p hp _ =>                                                  -- create, of a new file
    exact ⟨forall_setName (fun o (e : p = .obj o) => absurd (e ▸ rfl) hp)
        (intact_setData H _ hi (fresh_not_aliased hw)),
      forall_setName (Nat.lt_succ_self _) fun e he => Nat.lt_succ_of_lt (hw e he)⟩
  · next ha => exact ⟨intact_setData H _ hi ha, hw⟩               -- write
  · next ha => exact ⟨intact_setData H _ hi ha, hw⟩               -- truncate
  · exact ⟨hi, hw⟩                                                  -- rename between two names of one file
  · next hl _ hg _ =>                                               -- rename onto an object's name
    exact ⟨forall_setName (fun _ e => by cases e; exact hg.1) (forall_delName hi),
      forall_setName (lookup_lt hw hl) (forall_delName hw)⟩
  · next hl _ hd =>                                                 -- rename onto any other name
    exact ⟨forall_setName (fun o e => (hd o e).elim) (forall_delName hi),
      forall_setName (lookup_lt hw hl) (forall_delName hw)⟩
  · next hl _ =>                                                    -- link under an object's name
    exact ⟨forall_setName (fun _ e => by cases e; rfl) hi, forall_setName (lookup_lt hw hl) hw⟩
  · next hl hd =>                                                   -- link under any other name
    exact ⟨forall_setName (fun o e => (hd o e).elim) hi, forall_setName (lookup_lt hw hl) hw⟩
  · exact ⟨forall_delName hi, forall_delName hw⟩                    -- unlink

def exec (fs : Fs) : List Op → Option Fs
  | [] => some fs
  | op :: rest => match step H fs op with
    | some fs' => exec fs' rest
    | none => none

/-- **C09.kill_anywhere_leaves_storage_intact_with_links** -/
theorem prefix_intact (ops : List Op) : ∀ (fs fsEnd : Fs), Intact H fs → Wf fs → exec H fs ops = some fsEnd →
    ∀ k, ∃ fsK, exec H fs (ops.take k) = some fsK ∧ Intact H fsK := by
  intro fs fsEnd hi hw he k
  fun_induction exec H fs ops generalizing k
  · exact ⟨_, by rw [List.take_nil]; rfl, hi⟩
  · next fs op rest fs1 h1 ih =>
    cases k with
    | zero => exact ⟨fs, rfl, hi⟩
    | succ k =>
      obtain ⟨hi1, hw1⟩ := step_inv H fs fs1 op hi hw h1
      obtain ⟨fsK, hk, hik⟩ := ih hi1 hw1 he k
      exact ⟨fsK, by simp only [List.take_succ_cons, exec, h1, hk], hik⟩
  · cases he

theorem empty_inv : Intact H {} ∧ Wf {} :=
  ⟨List.forall_mem_nil _, List.forall_mem_nil _⟩

/-- what Crash.lean cannot say (a link there is a copy): a write through the second name of a stored
    object is refused by the discipline — and it would damage the object -/
example : let fs0 : Fs := { names := [(.tmp 1, 0)], data := fun _ => [1, 2], next := 1 }
    ∀ fs1, step (fun c => c.length) fs0 (.link (.tmp 1) (.obj 2)) = some fs1 →
      step (fun c => c.length) fs1 (.write (.tmp 1) [3]) = none := by
  intro fs0 fs1 h
  cases h
  rfl

end CrashI
