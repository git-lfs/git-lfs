import LfsModel.Crash
/-
C09, third clause: re-running the command after a kill at ANY point reaches the same local
storage as an uninterrupted run — proved for the store-one-object scenario (clean / git add of one
file; a download has the same shape: temp file, write bursts, rename into place).
-/
namespace Crash
variable (H : Bytes → Oid)

/-- the part of the file system the property speaks about -/
def objView (fs : Fs) : Oid → Option Bytes := fun o => fs (.obj o)

def touchesObj : Op → Bool
  | .create p => isObj p
  | .append p _ => isObj p
  | .rename s d => isObj s || isObj d
  | .link _ d => isObj d
  | .unlink p => isObj p

theorem upd_objView_nonobj (fs : Fs) (p : Path) (v : Option Bytes) (hp : isObj p = false) :
    objView (upd fs p v) = objView fs := by
  funext o
  exact upd_other fs v fun e => by rw [← e] at hp; cases hp

theorem upd_objView_obj (fs : Fs) (o : Oid) (v : Option Bytes) :
    objView (upd fs (.obj o) v) = fun o' => if o' = o then v else objView fs o' := by
  funext o'
  simp [objView, upd]

theorem step_objView {fs fs' : Fs} {op : Op} (ht : touchesObj op = false) (hs : step H fs op = some fs') :
    objView fs' = objView fs := by
  cases op with
  | create p =>
    obtain ⟨-, rfl⟩ := step_create H hs
    exact upd_objView_nonobj fs p _ ht
  | append p b =>
    obtain ⟨-, c, -, rfl⟩ := step_append H hs
    exact upd_objView_nonobj fs p _ ht
  | rename s d =>
    obtain ⟨c, -, -, rfl⟩ := step_rename H hs
    simp only [touchesObj, Bool.or_eq_false_iff] at ht
    rw [upd_objView_nonobj _ d _ ht.2, upd_objView_nonobj fs s _ ht.1]
  | link s d =>
    obtain ⟨c, -, -, -, rfl⟩ := step_link H hs
    exact upd_objView_nonobj fs d _ ht
  | unlink p =>
    cases step_unlink H hs
    exact upd_objView_nonobj fs p _ ht

theorem exec_objView {ops : List Op} {fs fs' : Fs} (ht : ∀ op ∈ ops, touchesObj op = false)
    (he : exec H fs ops = some fs') : objView fs' = objView fs :=
  exec_induction H (P := fun f => objView f = objView fs)
    (fun op hop _ _ hf hs => (step_objView H (ht op hop) hs).trans hf) rfl he

/-- `cleanOps` without its last operation, the rename into place -/
def cleanPre (n : Nat) (bursts : List Bytes) : List Op := .create (.tmp n) :: bursts.map (Op.append (.tmp n))

theorem cleanOps_eq (n : Nat) (bursts : List Bytes) :
    cleanOps H n bursts = cleanPre n bursts ++ [.rename (.tmp n) (.obj (H bursts.flatten))] := rfl

theorem cleanPre_touchesObj (n : Nat) (bursts : List Bytes) : ∀ op ∈ cleanPre n bursts, touchesObj op = false := by
  intro op hop
  simp only [cleanPre, List.mem_cons, List.mem_map] at hop
  rcases hop with rfl | ⟨b, -, rfl⟩ <;> rfl

theorem exec_appends (n : Nat) (bursts : List Bytes) (fs : Fs) (acc : Bytes) (h : fs (.tmp n) = some acc) :
    ∃ fs', exec H fs (bursts.map (Op.append (.tmp n))) = some fs' ∧ fs' (.tmp n) = some (acc ++ bursts.flatten) := by
  induction bursts generalizing fs acc with
  | nil => exact ⟨fs, rfl, by simpa using h⟩
  | cons b bs ih =>
    have hs : step H fs (.append (.tmp n) b) = some (upd fs (.tmp n) (some (acc ++ b))) := by
      simp [step, isObj, h]
    obtain ⟨fs', he, ht⟩ := ih (upd fs (.tmp n) (some (acc ++ b))) (acc ++ b) (upd_same _ _ _)
    exact ⟨fs', by simp [exec, hs, he], by simpa [List.append_assoc] using ht⟩

theorem exec_cleanPre (n : Nat) (bursts : List Bytes) (fs : Fs) :
    ∃ fs1, exec H fs (cleanPre n bursts) = some fs1 ∧ fs1 (.tmp n) = some bursts.flatten := by
  obtain ⟨fs1, ha, ht⟩ := exec_appends H n bursts (upd fs (.tmp n) (some [])) [] (upd_same _ _ _)
  exact ⟨fs1, by simp [cleanPre, exec, step, isObj, ha], ht⟩

/-- the whole scenario runs from ANY state and adds exactly the object -/
theorem exec_cleanOps (n : Nat) (bursts : List Bytes) (fs : Fs) :
    ∃ fs', exec H fs (cleanOps H n bursts) = some fs' ∧
      objView fs' = fun o => if o = H bursts.flatten then some bursts.flatten else objView fs o := by
  obtain ⟨fs1, he1, ht1⟩ := exec_cleanPre H n bursts fs
  refine ⟨upd (upd fs1 (.tmp n) none) (.obj (H bursts.flatten)) (some bursts.flatten), ?_, ?_⟩
  · -- after `cleanPre` the temp file holds the content, so the rename into place is allowed: its `step` is evaluated
    simp [cleanOps_eq, exec_append, he1, exec, step, ht1, isObj]
  · rw [upd_objView_obj, upd_objView_nonobj _ _ _ rfl, exec_objView H (cleanPre_touchesObj n bursts) he1]

/-- re-running the command: it stores the object unless it is already there -/
def cleanRun (fs : Fs) (n : Nat) (bursts : List Bytes) : Option Fs :=
  if (fs (.obj (H bursts.flatten))).isSome then some fs else exec H fs (cleanOps H n bursts)

/-- **C09.rerun_same_objects**: kill the scenario after ANY number k of its operations, run it again
    (with any fresh temp name): local storage ends up as after an uninterrupted run. -/
theorem rerun_same_objects (n n' : Nat) (bursts : List Bytes) (fs0 fsEnd : Fs)
    (hnew : fs0 (.obj (H bursts.flatten)) = none)
    (hend : exec H fs0 (cleanOps H n bursts) = some fsEnd) (k : Nat) :
    ∃ fsk fs2, exec H fs0 ((cleanOps H n bursts).take k) = some fsk ∧ cleanRun H fsk n' bursts = some fs2 ∧
      objView fs2 = objView fsEnd := by
  obtain ⟨fsE, heE, hoE⟩ := exec_cleanOps H n bursts fs0
  rw [hend] at heE; cases heE
  by_cases hk : k ≤ (cleanPre n bursts).length
  · -- killed before the rename: objects as at the start, the re-run stores the object
    obtain ⟨fsk, hfsk⟩ := exec_take H hend k
    have hpre : exec H fs0 ((cleanPre n bursts).take k) = some fsk := by
      rw [← hfsk, cleanOps_eq, List.take_append_of_le_length hk]
    have hov : objView fsk = objView fs0 :=
      exec_objView H (fun op hop => cleanPre_touchesObj n bursts op (List.mem_of_mem_take hop)) hpre
    have habs : fsk (.obj (H bursts.flatten)) = none := (congrFun hov _).trans hnew
    obtain ⟨fs2, he2, ho2⟩ := exec_cleanOps H n' bursts fsk
    exact ⟨fsk, fs2, hfsk, by simp [cleanRun, habs, he2], by rw [ho2, hoE, hov]⟩
  · -- killed after the rename (or not at all): the object is there, the re-run changes nothing
    have htake : (cleanOps H n bursts).take k = cleanOps H n bursts := by
      apply List.take_of_length_le
      rw [cleanOps_eq, List.length_append, List.length_singleton]
      omega
    have hpres : fsEnd (.obj (H bursts.flatten)) = some bursts.flatten :=
      (congrFun hoE (H bursts.flatten)).trans (if_pos rfl)
    exact ⟨fsEnd, fsEnd, by rw [htake, hend], by simp [cleanRun, hpres], rfl⟩

end Crash
