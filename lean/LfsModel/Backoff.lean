/-
retryCounter.ReadyTime's delay arithmetic on uint64 (tq/transfer_queue.go).
  maxDelayMs := 1000 * uint64(MaxRetryDelay)
  delay := uint64(250) * (1 << uint(count-1))      -- Go: shift ≥ 64 gives 0; product wraps mod 2^64
  if delay == 0 || delay > maxDelayMs { delay = maxDelayMs }
-/
namespace Backoff

def two64 : Nat := 2 ^ 64

/-- `1 << k` on uint64 -/
def shl1 (k : Nat) : Nat := if k < 64 then 2 ^ k else 0

/-- the delay in ms for retry number `count ≥ 1` -/
def delayMs (baseMs maxMs count : Nat) : Nat :=
  let d := (baseMs * shl1 (count - 1)) % two64
  if d = 0 ∨ d > maxMs then maxMs else d

/-- Shifting past the width gives 0, and so does reducing `2 ^ k` mod 2^64: the uint64 shift is the true power
reduced. -/
theorem shl1_eq_mod (k : Nat) : shl1 k = 2 ^ k % two64 := by
  unfold shl1
  split
  · next h => exact (Nat.mod_eq_of_lt (Nat.pow_lt_pow_of_lt (by decide) h)).symm
  · next h => exact (Nat.mod_eq_zero_of_dvd (Nat.pow_dvd_pow 2 (Nat.le_of_not_lt h))).symm

/-- hence the wrapped product of `delayMs` is the true product `b * 2 ^ k` reduced mod 2^64 -/
theorem mul_shl1_mod (b k : Nat) : (b * shl1 k) % two64 = (b * 2 ^ k) % two64 := by
  rw [shl1_eq_mod, Nat.mul_mod_mod]

/-- **C15.backoff_le_max** -/
theorem delay_le_max (b m c : Nat) : delayMs b m c ≤ m := by
  simp only [delayMs]
  split
  · exact Nat.le_refl m
  · next h => exact Nat.le_of_not_lt fun hgt => h (Or.inr hgt)

/-- **C15.backoff_exact_until_cap** -/
theorem delay_exact (b m c : Nat) (hc : 1 ≤ c) (hb : 0 < b) (hle : b * 2 ^ (c - 1) ≤ m) (hm : m < two64) :
    delayMs b m c = b * 2 ^ (c - 1) := by
  have hpos : 0 < b * 2 ^ (c - 1) := Nat.mul_pos hb (Nat.pow_pos (by decide))
  simp only [delayMs, mul_shl1_mod, Nat.mod_eq_of_lt (Nat.lt_of_le_of_lt hle hm)]
  exact if_neg (not_or.mpr ⟨Nat.ne_of_gt hpos, Nat.not_lt.mpr hle⟩)

/-- Once the true product exceeds the maximum, the (possibly wrapped) uint64 product is 0 or still above the
maximum, so the result is the maximum — provided shifts up to `e` do not wrap the base and the maximum is below
`2 ^ (e + 1)`. -/
theorem delayMs_capped (b m c e : Nat) (he : e < 64) (hbe : b * 2 ^ e < two64) (hm : m < 2 ^ (e + 1))
    (hgt : m < b * 2 ^ (c - 1)) : delayMs b m c = m := by
  simp only [delayMs, mul_shl1_mod]
  refine if_pos ?_
  by_cases hk : c - 1 ≤ e
  · have hfit : b * 2 ^ (c - 1) ≤ b * 2 ^ e := Nat.mul_le_mul_left b (Nat.pow_le_pow_right (by decide) hk)
    rw [Nat.mod_eq_of_lt (Nat.lt_of_le_of_lt hfit hbe)]
    exact Or.inr hgt
  · -- wrapped: 2^(e+1) divides the product and the modulus, hence the remainder, which is then 0 or ≥ 2^(e+1)
    have hd : 2 ^ (e + 1) ∣ (b * 2 ^ (c - 1)) % two64 :=
      (Nat.dvd_mod_iff (Nat.pow_dvd_pow 2 he)).mpr
        (Nat.dvd_mul_left_of_dvd (Nat.pow_dvd_pow 2 (Nat.lt_of_not_le hk)) b)
    rcases Nat.eq_zero_or_pos ((b * 2 ^ (c - 1)) % two64) with h0 | hpos
    · exact Or.inl h0
    · exact Or.inr (Nat.lt_of_lt_of_le hm (Nat.le_of_dvd hpos hd))

/-- **C15.backoff_capped_after**: the base 250 survives shifts up to 56, so the result is the maximum whenever
that is below 2^57 ms. -/
theorem delay_capped (m c : Nat) (hc : 1 ≤ c) (hgt : m < 250 * 2 ^ (c - 1)) (hm : m < 2 ^ 57) :
    delayMs 250 m c = m :=
  delayMs_capped 250 m c 56 (by decide) (by decide) hm hgt

#print axioms delay_capped
end Backoff
