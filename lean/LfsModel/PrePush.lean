/-
commands/command_pre_push.go: prePushRefs + decodeRefs — what the pre-push hook reads from Git
(one line per ref of the push: `<local ref> <local id> <remote ref> <remote id>`) and which ref updates
it hands to the upload scan.  A deletion (`(delete) 000…0 <remote ref> <id>`) has nothing to upload and
is skipped; every other line is one update, whatever stands before or after it.
Core-only, executable (driven by Oracle `C03 prepush`).
-/
namespace PrePush

abbrev Bytes := List UInt8

/-- ASCII white space as strings.TrimSpace sees it on the bytes Git writes -/
def isSpace (b : UInt8) : Bool := b == 32 || b == 9 || b == 10 || b == 11 || b == 12 || b == 13

def trimLeft (s : Bytes) : Bytes := s.dropWhile isSpace
def trimRight (s : Bytes) : Bytes := (s.reverse.dropWhile isSpace).reverse
def trim (s : Bytes) : Bytes := trimRight (trimLeft s)

/-- strings.Split(s, " ") -/
def splitSp : Bytes → List Bytes
  | [] => [[]]
  | b :: rest =>
    if b == 32 then [] :: splitSp rest
    else match splitSp rest with
      | [] => [[b]]
      | f :: fs => (b :: f) :: fs

/-- git.IsZeroObjectID: all zeros, of the length of a SHA-1 or SHA-256 object id -/
def zeroId (s : Bytes) : Bool := (s.length == 40 || s.length == 64) && s.all (· == 48)

structure Upd where
  lref : Bytes
  lsha : Bytes
  rref : Bytes
  rsha : Bytes
deriving DecidableEq, Repr

def parseLine (s : Bytes) : Option Upd :=
  let t := trim s
  if t.isEmpty then none
  else
    let f := splitSp t
    if zeroId (f.getD 1 []) then none
    else some ⟨f.getD 0 [], f.getD 1 [], f.getD 2 [], f.getD 3 []⟩

def parse (lines : List Bytes) : List Upd := lines.filterMap parseLine

/-! ### every line stands for itself -/

theorem parse_append (a b : List Bytes) : parse (a ++ b) = parse a ++ parse b :=
  List.filterMap_append

theorem parse_cons_skip (l : Bytes) (rest : List Bytes) (h : parseLine l = none) :
    parse (l :: rest) = parse rest :=
  List.filterMap_cons_none h

theorem parse_mem (lines : List Bytes) (l : Bytes) (u : Upd) (hl : l ∈ lines) (hu : parseLine l = some u) :
    u ∈ parse lines :=
  List.mem_filterMap.mpr ⟨l, hl, hu⟩

theorem parse_order (pre post : List Bytes) (l : Bytes) (u : Upd) (hu : parseLine l = some u) :
    parse (pre ++ l :: post) = parse pre ++ u :: parse post := by
  simp [parse, hu]

/-! ### the line Git writes for a ref that is created or updated is read back field by field -/

def NoSp (s : Bytes) : Prop := ∀ b ∈ s, isSpace b = false

theorem splitSp_ne_nil (s : Bytes) : splitSp s ≠ [] := by
  fun_cases splitSp s <;> exact List.cons_ne_nil _ _

theorem splitSp_append (a rest f : Bytes) (fs : List Bytes) (h : NoSp a) (hr : splitSp rest = f :: fs) :
    splitSp (a ++ rest) = (a ++ f) :: fs := by
  induction a with
  | nil => exact hr
  | cons b a ih =>
    -- `b` is no white space, and the blank is
    have h32 : (b == 32) = false := Bool.eq_false_iff.mpr fun e =>
      Bool.false_ne_true ((h b List.mem_cons_self).symm.trans (by rw [isSpace, e]; rfl))
    simp only [List.cons_append, splitSp, h32, ih fun x hx => h x (List.mem_cons_of_mem b hx)]
    rfl

theorem splitSp_nosp (s : Bytes) (h : NoSp s) : splitSp s = [s] := by
  simpa using splitSp_append s [] [] [] h rfl

theorem splitSp_field (a rest : Bytes) (h : NoSp a) : splitSp (a ++ 32 :: rest) = a :: splitSp rest := by
  simpa using splitSp_append a (32 :: rest) [] (splitSp rest) h rfl

theorem trim_eq_self {b e : UInt8} {mid : Bytes} (hb : isSpace b = false) (he : isSpace e = false) :
    trim (b :: (mid ++ [e])) = b :: (mid ++ [e]) := by
  simp [trim, trimLeft, trimRight, hb, he]

def sp : Bytes := [32]

/-- a ref line as Git writes it -/
def line (u : Upd) : Bytes := u.lref ++ 32 :: (u.lsha ++ 32 :: (u.rref ++ 32 :: u.rsha))

theorem parseLine_line_eq {u : Upd} {b : UInt8} {l' : Bytes} {e : UInt8} {r' : Bytes}
    (hl : u.lref = b :: l') (hr : u.rsha = r' ++ [e])
    (h1 : NoSp u.lref) (h2 : NoSp u.lsha) (h3 : NoSp u.rref) (h4 : NoSp u.rsha) :
    parseLine (line u) = if zeroId u.lsha then none else some u := by
  have hsplit : splitSp (line u) = [u.lref, u.lsha, u.rref, u.rsha] := by
    rw [line, splitSp_field _ _ h1, splitSp_field _ _ h2, splitSp_field _ _ h3, splitSp_nosp _ h4]
  have hline : line u = b :: ((l' ++ 32 :: (u.lsha ++ 32 :: (u.rref ++ 32 :: r'))) ++ [e]) := by
    simp only [line, hl, hr, List.cons_append, List.append_assoc]
  have htrim : trim (line u) = line u :=
    hline ▸ trim_eq_self (h1 b (hl ▸ List.mem_cons_self)) (h4 e (hr ▸ List.mem_append_right _ List.mem_cons_self))
  -- in the form of `hline` the line is visibly not empty
  rw [parseLine, htrim, hsplit, hline]
  rfl

theorem parseLine_line (u : Upd) (b : UInt8) (l' : Bytes) (e : UInt8) (r' : Bytes)
    (hl : u.lref = b :: l') (hr : u.rsha = r' ++ [e])
    (h1 : NoSp u.lref) (h2 : NoSp u.lsha) (h3 : NoSp u.rref) (h4 : NoSp u.rsha)
    (hz : zeroId u.lsha = false) : parseLine (line u) = some u := by
  simp [parseLine_line_eq hl hr h1 h2 h3 h4, hz]

theorem parseLine_delete (l rref rsha zero : Bytes) (b : UInt8) (l' : Bytes) (e : UInt8) (r' : Bytes)
    (hl : l = b :: l') (hr : rsha = r' ++ [e])
    (h1 : NoSp l) (h2 : NoSp zero) (h3 : NoSp rref) (h4 : NoSp rsha) (hz : zeroId zero = true) :
    parseLine (line ⟨l, zero, rref, rsha⟩) = none := by
  simp [parseLine_line_eq (u := ⟨l, zero, rref, rsha⟩) hl hr h1 h2 h3 h4, hz]

end PrePush
