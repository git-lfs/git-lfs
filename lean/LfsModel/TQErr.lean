import LfsModel.TQStep
/-
C06 — error coverage: an object that ends as "errored" is covered by a reported error.
`errors` counts the reports; it never decreases and every transition into `.term .errored` adds one.
-/
namespace TQ

def ErrCover (s : State) : Prop := 0 < s.errors ∨ ∀ o, s.st o ≠ .term .errored

/-- one status changes, to `errored` only together with a new report -/
theorem errCover_set {s s' : State} (h : ErrCover s) {o : Oid} {v : Status} (hst : s'.st = set s.st o v)
    (hn : s.errors ≤ s'.errors) (hv : v = .term .errored → s.errors < s'.errors) : ErrCover s' := by
  rcases h with h | h
  · exact Or.inl (Nat.lt_of_lt_of_le h hn)
  · by_cases hv' : v = .term .errored
    · exact Or.inl (Nat.zero_lt_of_lt (hv hv'))
    · refine Or.inr fun x => ?_
      rw [hst]
      unfold set
      split
      · exact hv'
      · exact h x

theorem step_errCover {s s' : State} {e : Ev} (h : ErrCover s) (hs : step s e = some s') : ErrCover s' := by
  cases step_shape hs with
  | addNew o => exact errCover_set h (v := .incoming) rfl (Nat.le_refl _) nofun
  | move o v _ hv => exact errCover_set h rfl (Nat.le_refl _) fun hv' => absurd hv' (live_ne_term hv _)
  | finish o t n dl _ _ hn herr => exact errCover_set h rfl hn fun ht => herr (Status.term.inj ht)
  | retry o => exact errCover_set h (v := .retryOut) rfl (Nat.le_refl _) nofun
  | batch os =>
    refine h.imp_right fun h x => ?_
    show (if x ∈ os then Status.inBatch else s.st x) ≠ .term .errored
    split
    · nofun
    · exact h x
  -- the other forms leave `st` and `errors` as they are
  | _ => exact h

theorem run_errCover (s s' : State) (es : List Ev) (hr : run s es = some s') (h : ErrCover s) : ErrCover s' :=
  run_induction step_errCover es h hr

end TQ
