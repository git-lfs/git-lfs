import LfsModel.TQStep
/-
Retry discipline of the transfer-queue model (C15): the retry counter never exceeds the budget,
terminal states are absorbing.
-/
namespace TQ

def RcBound (s : State) : Prop := ∀ o, s.rc o ≤ s.maxRetries

theorem step_rc {s s' : State} {e : Ev} (h : RcBound s) (hs : step s e = some s') :
    RcBound s' ∧ s'.maxRetries = s.maxRetries := by
  cases step_shape hs with
  | retry o _ hlt =>
    refine ⟨fun x => ?_, rfl⟩
    by_cases hx : x = o
    · subst hx
      exact Nat.le_trans (Nat.le_of_eq (set_same ..)) hlt
    · exact Nat.le_trans (Nat.le_of_eq (set_other _ _ hx)) (h x)
  -- the other forms leave `rc` and `maxRetries` as they are
  | _ => exact ⟨h, rfl⟩

theorem run_rc (es : List Ev) {s s' : State} (h : RcBound s) (hr : run s es = some s') :
    RcBound s' ∧ s'.maxRetries = s.maxRetries :=
  run_induction (P := fun t => RcBound t ∧ t.maxRetries = s.maxRetries)
    (fun h hs => ⟨(step_rc h.1 hs).1, (step_rc h.1 hs).2.trans h.2⟩) es ⟨h, rfl⟩ hr

/-- TERMINAL IS ABSORBING: once an object is delivered, declared unneeded or failed for good, no
    event changes its status again — in particular a non-retriable failure is never retried. -/
theorem term_absorbing {s s' : State} {e : Ev} {o : Oid} {t : Term} (ht : s.st o = .term t)
    (hs : step s e = some s') : s'.st o = .term t := by
  -- an event changes the status of objects that are not terminal only
  have other : ∀ {x : Oid}, s.st x ≠ .term t → o ≠ x := fun hx e => hx (e ▸ ht)
  cases step_shape hs with
  | addNew x hu => exact (set_other _ _ (other (by rw [hu]; nofun))).trans ht
  | move x v hl => exact (set_other _ _ (other (live_ne_term hl t))).trans ht
  | finish x t' n dl hl => exact (set_other _ _ (other (live_ne_term hl t))).trans ht
  | retry x hl => exact (set_other _ _ (other (live_ne_term hl t))).trans ht
  | batch os _ hw => exact (if_neg fun hm => other (by rw [hw o hm]; nofun) rfl).trans ht
  -- the other forms leave `st` as it is
  | _ => exact ht

end TQ
