import LfsModel.AStreamLemmas
import LfsModel.Pointer
/-
lfs.GitFilter.copyToTemp + commands.clean over a chunked stream, with the pointer decoder
`Lfs.decodeBuf` plugged in, and the `fileSize` argument (stat of the named path) explicit.
-/
namespace LfsF
open LfsA LfsA.Stream

abbrev Bytes := LfsA.Bytes

inductive ReadKind | single | full deriving DecidableEq

inductive CleanOut
  | passthrough (b : Bytes)      -- CleanPointerError: bytes written back verbatim, store untouched
  | stored (content : Bytes)     -- content hashed + stored, pointer ⟨H content, |content|⟩ emitted
deriving Repr, DecidableEq

/-- "the first window decodes as a pointer" -/
def isPtr (b : Bytes) : Bool := match Lfs.decodeBuf b with | .ok _ => true | .error _ => false

def firstRead (k : ReadKind) (s : Stream) (cut : Nat) : Bytes × Bool × Stream :=
  match k with
  | .single => s.read cut
  | .full => s.readFull cut

/-- `fileSize`: none = the caller passed −1 and nothing sits at the path (or no path);
some n = explicit size or `os.Stat(path).Size()` -/
def clean (k : ReadKind) (cut : Nat) (fileSize : Option Nat) (s : Stream) : CleanOut :=
  let (buf, eof, s') := firstRead k s cut
  if buf.isEmpty && eof then .passthrough []
  else if isPtr buf && decide (buf.length < cut) then .passthrough buf
  else
    let more := match fileSize with
      | none => true
      | some n => decide (buf.length < n)
    .stored (if more then buf ++ s'.data else buf)

def spec (cut : Nat) (b : Bytes) : CleanOut :=
  if b.isEmpty then .passthrough []
  else if isPtr b && decide (b.length < cut) then .passthrough b else .stored b

theorem readFull_eof_of_empty (s : Stream) (n : Nat) (hn : 0 < n) (hd : s.data = []) :
    (s.readFull n).2.1 = true :=
  Stream.readFull_eof_of_empty s n hn hd

/-- The argument of `Flt.clean_eq_spec` (FilterProofs, from which C08 is proved) for this model, where the size hint
is explicit: `hsz` is what keeps the hint from cutting the copy short (D18 below is the case it excludes). -/
theorem clean_full_eq_spec (cut : Nat) (hc : 0 < cut) (fileSize : Option Nat) (s : Stream)
    (hsz : ∀ n, fileSize = some n → s.data.length ≤ cut ∨ cut < n) :
    clean .full cut fileSize s = spec cut s.data := by
  obtain ⟨eof, s', hr, hrest, heof⟩ := readFull_eq s cut
  simp only [clean, firstRead, hr, hrest, isEmpty_take hc, isEmpty_and_eof (heof hc), spec]
  -- what is stored is all of the data, provided the copy stops after the window (`more = false`) only when the
  -- window holds everything
  have hcopy : ∀ more : Bool, (more = false → s.data.length ≤ cut) →
      (if more = true then s.data.take cut ++ s.data.drop cut else s.data.take cut) = s.data := by
    intro more h
    cases more with
    | true => exact List.take_append_drop cut s.data
    | false => exact List.take_of_length_le (h rfl)
  rw [hcopy]
  · by_cases hlen : s.data.length < cut
    · rw [List.take_of_length_le (Nat.le_of_lt hlen)]
    · -- a full window is not a pointer, on either side
      simp only [List.length_take_of_le (Nat.le_of_not_lt hlen), Nat.lt_irrefl, hlen, decide_false, Bool.and_false,
        Bool.false_eq_true, if_false]
  · -- a size hint that stops the copy is at most `cut`, and then `hsz` says that the window holds everything
    intro hmore
    cases fileSize with
    | none => cases hmore
    | some n =>
      exact (hsz n rfl).resolve_right fun h =>
        of_decide_eq_false hmore (Nat.lt_of_le_of_lt (List.length_take_le cut s.data) h)

theorem clean_chunk_independent (cut : Nat) (hc : 0 < cut) (s t : Stream) (h : s.data = t.data) :
    clean .full cut none s = clean .full cut none t := by
  rw [clean_full_eq_spec cut hc none s (by intro n hn; cases hn),
      clean_full_eq_spec cut hc none t (by intro n hn; cases hn), h]

/-- D18: a short file at the named path truncates the stored content to the first window -/
example : clean .full 4 (some 2) ⟨[[1,2,3,4,5,6,7,8,9]], true⟩ = .stored [1,2,3,4] := rfl
example : spec 4 [1,2,3,4,5,6,7,8,9] = .stored [1,2,3,4,5,6,7,8,9] := by simp [spec]

#print axioms clean_full_eq_spec
end LfsF
