/-
tq/transfer_queue.go: batch.Concat — how collectBatches splits "what is left over from the running batch
+ what has been collected since" into the next batch (`left`: ready, at most `size`) and what has to wait
(`right`: not yet ready, plus the overflow of ready ones).  One call, with the clock read once (`now`).
Core-only, executable (driven by Oracle `C06 concat`).
-/
namespace TQConcat

abbrev Oid := Nat

/-- an object tuple: its id and the instant (ms) from which it may be requested again -/
abbrev Item := Oid × Int

def ready (now : Int) (it : Item) : Bool := decide (it.2 < now)

def concat (now : Int) (b other : List Item) (size : Nat) : List Item × List Item :=
  let u := b ++ other
  let left := u.filter (ready now)
  let right := u.filter fun it => !ready now it
  if left.length ≤ size then (left, right)
  else (left.take size, right ++ left.drop size)

/-- both cases of `concat` at once: taking and dropping `size` does nothing to a list that is no longer -/
theorem concat_eq (now : Int) (b other : List Item) (size : Nat) :
    concat now b other size =
      (((b ++ other).filter (ready now)).take size,
        ((b ++ other).filter fun it => !ready now it) ++ ((b ++ other).filter (ready now)).drop size) := by
  unfold concat
  simp only
  split
  · next h => rw [List.take_of_length_le h, List.drop_of_length_le h, List.append_nil]
  · rfl

/-- **C06.concat_conserves** -/
theorem concat_conserves (now : Int) (b other : List Item) (size : Nat) :
    ((concat now b other size).1 ++ (concat now b other size).2).Perm (b ++ other) := by
  rw [concat_eq]
  -- take ++ (right ++ drop)  ~  (take ++ drop) ++ right  =  left ++ right  ~  u
  refine (List.perm_append_comm.append_left _).trans ?_
  rw [← List.append_assoc, List.take_append_drop]
  exact List.filter_append_perm (ready now) (b ++ other)

/-- **C06.concat_left_bounded** -/
theorem concat_left_bounded (now : Int) (b other : List Item) (size : Nat) :
    (concat now b other size).1.length ≤ size := by
  rw [concat_eq]
  exact List.length_take_le size _

/-- only objects whose ready time has passed are batched -/
theorem concat_left_ready (now : Int) (b other : List Item) (size : Nat) :
    ∀ it ∈ (concat now b other size).1, it.2 < now := by
  intro it h
  rw [concat_eq] at h
  exact of_decide_eq_true (List.mem_filter.mp (List.mem_of_mem_take h)).2

/-- **C06.concat_waiting_kept** -/
theorem concat_waiting_kept (now : Int) (b other : List Item) (size : Nat) (it : Item)
    (hm : it ∈ b ++ other) (hw : ¬ it.2 < now) : it ∈ (concat now b other size).2 := by
  rw [concat_eq]
  exact List.mem_append_left _ (List.mem_filter.mpr ⟨hm, by simp only [ready, hw, decide_false, Bool.not_false]⟩)

end TQConcat
