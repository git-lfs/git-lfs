/-
tools.CleanPaths (tools/filetools.go) as lfs.fetchinclude / lfs.fetchexclude and the -I / -X options use it:
a comma separated list whose elements may carry blanks around them and one trailing slash.  Core-only.
White space is the ASCII part of unicode.IsSpace (`\t \n \v \f \r` and the blank); the correspondence
check feeds no other white space.
-/
namespace PathList
abbrev Bytes := List UInt8

def isSpace (b : UInt8) : Bool := b == 32 || (9 ≤ b && b ≤ 13)

/-- strings.Split(s, ",") for a one-byte separator -/
def split (d : UInt8) : Bytes → List Bytes
  | [] => [[]]
  | c :: cs =>
    if c == d then [] :: split d cs
    else match split d cs with
      | [] => [[c]]
      | h :: t => (c :: h) :: t

def trimLeft (s : Bytes) : Bytes := s.dropWhile isSpace
def trimRight (s : Bytes) : Bytes := (s.reverse.dropWhile isSpace).reverse
/-- strings.TrimSpace -/
def trim (s : Bytes) : Bytes := trimRight (trimLeft s)

/-- "Remove trailing `/` or `\`, but only the first one." -/
def stripSlash (s : Bytes) : Bytes :=
  match s.reverse with
  | c :: r => if c == 47 || c == 92 then r.reverse else s
  | [] => s

def cleanPaths (s : Bytes) (d : UInt8) : List Bytes :=
  let t := trim s
  if t.isEmpty then [] else (split d t).map fun p => stripSlash (trim p)

/-- `a, b ,c`: the elements joined by the separator -/
def join (d : UInt8) : List Bytes → Bytes
  | [] => []
  | [p] => p
  | p :: q :: ps => p ++ d :: join d (q :: ps)

theorem split_ne_nil (d : UInt8) (s : Bytes) : split d s ≠ [] := by
  fun_cases split d s <;> exact List.cons_ne_nil _ _

theorem split_append {d : UInt8} {p s h : Bytes} {t : List Bytes} (hp : ∀ x ∈ p, x ≠ d)
    (hs : split d s = h :: t) : split d (p ++ s) = (p ++ h) :: t := by
  induction p with
  | nil => exact hs
  | cons c cs ih =>
    -- `==` on bytes is `decide (· = ·)`; the lemmas of `LawfulBEq` cost an instance search each time
    have hc : (c == d) = false := decide_eq_false (hp c List.mem_cons_self)
    simp only [List.cons_append, split, hc, Bool.false_eq_true, if_false,
      ih fun x hx => hp x (List.mem_cons_of_mem c hx)]

theorem split_sep (d : UInt8) (s : Bytes) : split d (d :: s) = [] :: split d s :=
  if_pos (decide_eq_true rfl)

theorem split_join {d : UInt8} {ps : List Bytes} (hne : ps ≠ []) (h : ∀ p ∈ ps, ∀ x ∈ p, x ≠ d) :
    split d (join d ps) = ps := by
  fun_induction join d ps with
  | case1 => exact absurd rfl hne
  | case2 p =>
    have := split_append (h p List.mem_cons_self) (s := []) rfl
    rwa [List.append_nil] at this
  | case3 p q ps ih =>
    rw [split_append (h p List.mem_cons_self) (split_sep d _), List.append_nil,
      ih (List.cons_ne_nil q ps) fun p' hp' => h p' (List.mem_cons_of_mem p hp')]

/-- an element that neither begins nor ends with white space (the empty one included) -/
def Tight (p : Bytes) : Prop :=
  (∀ c r, p = c :: r → isSpace c = false) ∧ (∀ c r, p.reverse = c :: r → isSpace c = false)

theorem dropWhile_tight {p : Bytes} (h : ∀ c r, p = c :: r → isSpace c = false) :
    p.dropWhile isSpace = p := by
  cases p with
  | nil => rfl
  | cons c r => exact List.dropWhile_cons_of_neg (Bool.eq_false_iff.mp (h c r rfl))

theorem head_append {p : Bytes} (hne : p ≠ []) (h : ∀ c r, p = c :: r → isSpace c = false) (x : Bytes) :
    ∀ c r, p ++ x = c :: r → isSpace c = false := by
  cases p with
  | nil => exact absurd rfl hne
  | cons a l =>
    intro c r hc
    cases hc
    exact h a l rfl

theorem trim_pad {pre p post : Bytes} (hpre : ∀ x ∈ pre, isSpace x = true)
    (hpost : ∀ x ∈ post, isSpace x = true) (ht : Tight p) (hne : p ≠ []) :
    trim (pre ++ p ++ post) = p := by
  have hrev : ∀ x ∈ post.reverse, isSpace x = true := fun x hx => hpost x (List.mem_reverse.mp hx)
  unfold trim trimLeft trimRight
  rw [List.append_assoc, List.dropWhile_append_of_pos hpre, dropWhile_tight (head_append hne ht.1 post),
    List.reverse_append, List.dropWhile_append_of_pos hrev, dropWhile_tight ht.2, List.reverse_reverse]

theorem trim_blank {pad : Bytes} (h : ∀ x ∈ pad, isSpace x = true) : trim pad = [] := by
  have : pad.dropWhile isSpace = [] := by
    simpa using List.dropWhile_append_of_pos (l₂ := []) h
  simp [trim, trimLeft, trimRight, this]

theorem Tight.of_ends {p q s : Bytes} (hp : Tight p) (hpn : p ≠ []) (hq : Tight q) (hqn : q ≠ [])
    (h1 : p <+: s) (h2 : q <:+ s) : Tight s := by
  obtain ⟨x, rfl⟩ := h1
  obtain ⟨y, hy⟩ := h2
  refine ⟨head_append hpn hp.1 x, ?_⟩
  rw [← hy, List.reverse_append]
  exact head_append (mt List.reverse_eq_nil_iff.mp hqn) hq.2 _

/-- an element as a user may write it: the pattern with blanks on both sides -/
structure Padded where
  pre : Bytes
  pat : Bytes
  post : Bytes

def Padded.text (e : Padded) : Bytes := e.pre ++ e.pat ++ e.post

def Padded.Ok (d : UInt8) (e : Padded) : Prop :=
  (∀ x ∈ e.pre, isSpace x = true) ∧ (∀ x ∈ e.post, isSpace x = true) ∧ Tight e.pat ∧ e.pat ≠ [] ∧
  (∀ x ∈ e.text, x ≠ d)

theorem map_clean {d : UInt8} {es : List Padded} (h : ∀ e ∈ es, e.Ok d) :
    (es.map Padded.text).map (fun p => stripSlash (trim p)) = es.map fun e => stripSlash e.pat := by
  rw [List.map_map]
  refine List.map_congr_left fun e he => ?_
  obtain ⟨hpre, hpost, ht, hne, -⟩ := h e he
  rw [Function.comp_apply, Padded.text, trim_pad hpre hpost ht hne]

theorem prefix_join (d : UInt8) (p : Bytes) (qs : List Bytes) : p <+: join d (p :: qs) := by
  cases qs with
  | nil => exact List.prefix_refl p
  | cons q qs => exact List.prefix_append p _

theorem suffix_join (d : UInt8) (ps : List Bytes) (q : Bytes) : q <:+ join d (ps ++ [q]) := by
  induction ps with
  | nil => exact List.suffix_refl q
  | cons p ps ih =>
    -- `ps ++ [q]` is a cons whichever form `ps` has, and then `join` puts `p` and the separator in front
    cases ps <;> exact ih.trans ((List.suffix_cons d _).trans (List.suffix_append p _))

/-- **C04.list_elements_are_the_patterns_spelt**.  The blanks before the first element and after the last one are
`lead` and `trail`, not part of an element: hence `hfirst` and `hlast`. -/
theorem cleanPaths_padded {d : UInt8} {lead trail : Bytes} {es : List Padded} {last : Padded}
    (hlead : ∀ x ∈ lead, isSpace x = true) (htrail : ∀ x ∈ trail, isSpace x = true)
    (hok : ∀ e ∈ es ++ [last], e.Ok d) (hfirst : ∀ f rest, es ++ [last] = f :: rest → f.pre = [])
    (hlast : last.post = []) :
    cleanPaths (lead ++ join d ((es ++ [last]).map Padded.text) ++ trail) d
      = (es ++ [last]).map fun e => stripSlash e.pat := by
  have hcat : es ++ [last] ≠ [] := List.append_ne_nil_of_right_ne_nil es (List.cons_ne_nil last [])
  obtain ⟨first, rest, hrest⟩ := List.exists_cons_of_ne_nil hcat
  obtain ⟨-, -, htf, hnf, -⟩ := hok first (hrest ▸ List.mem_cons_self)
  obtain ⟨-, -, htl, hnl, -⟩ := hok last (List.mem_append_right es List.mem_cons_self)
  -- the joined text begins with the first pattern and ends with the last one, so it is tight
  have h1 : first.pat <+: join d ((es ++ [last]).map Padded.text) := by
    rw [hrest, List.map_cons]
    refine .trans ?_ (prefix_join d _ _)
    rw [Padded.text, hfirst first rest hrest]
    exact List.prefix_append _ _
  have h2 : last.pat <:+ join d ((es ++ [last]).map Padded.text) := by
    rw [List.map_append]
    refine .trans ?_ (suffix_join d _ _)
    rw [Padded.text, hlast, List.append_nil]
    exact List.suffix_append _ _
  have hne : join d ((es ++ [last]).map Padded.text) ≠ [] :=
    fun h => hnf (List.prefix_nil.mp (h ▸ h1))
  unfold cleanPaths
  rw [trim_pad hlead htrail (htf.of_ends hnf htl hnl h1 h2) hne,
    if_neg (mt List.isEmpty_iff.mp hne),
    split_join (mt List.map_eq_nil_iff.mp hcat) (List.forall_mem_map.mpr fun e he => (hok e he).2.2.2.2)]
  exact map_clean hok

/-- **C04.list_element_trailing_slash** -/
theorem stripSlash_once (p : Bytes) : stripSlash (p ++ [47]) = p := by
  unfold stripSlash
  rw [List.reverse_append]
  exact List.reverse_reverse p

def ex1 : Padded := ⟨[], [107, 101, 101, 112], [32]⟩       -- `keep ` 
def ex2 : Padded := ⟨[32], [114, 97, 119, 47], []⟩          -- ` raw/`
/-- premises satisfiable, on the input `-I "keep , raw/"` of the trial change seeded/C04-list-elements-not-trimmed -/
example : cleanPaths ([32] ++ join 44 ([ex1, ex2].map Padded.text) ++ [10]) 44 = [[107, 101, 101, 112], [114, 97, 119]] := by
  decide

end PathList
