/-
net/url PathEscape / PathUnescape (mode encodePathSegment) as locking/api.go needs them: the lock id a
server hands out becomes ONE segment of the unlock URL `locks/<id>/unlock`.  Core-only.
-/
namespace UrlEsc
abbrev Bytes := List UInt8
def isAlnum (b : UInt8) : Bool := (48 ≤ b && b ≤ 57) || (65 ≤ b && b ≤ 90) || (97 ≤ b && b ≤ 122)
/-- net/url shouldEscape(c, encodePathSegment) = false -/
def keep (b : UInt8) : Bool := isAlnum b || b == 45 || b == 95 || b == 46 || b == 126 || b == 36 || b == 38 || b == 43 || b == 58 || b == 61 || b == 64
def hexDigit (n : UInt8) : UInt8 := if n < 10 then 48 + n else 55 + n
def escByte (b : UInt8) : Bytes := if keep b then [b] else [37, hexDigit (b >>> 4), hexDigit (b &&& 15)]
def pathEscape (s : Bytes) : Bytes := s.flatMap escByte

def hexVal (c : UInt8) : Option UInt8 :=
  if 48 ≤ c && c ≤ 57 then some (c - 48) else if 65 ≤ c && c ≤ 70 then some (c - 55)
  else if 97 ≤ c && c ≤ 102 then some (c - 87) else none

/-- net/url unescape(s, encodePathSegment) -/
def pathUnescape : Bytes → Option Bytes
  | [] => some []
  | b :: rest =>
    if b == 37 then
      match rest with
      | h :: l :: rest' =>
        (match hexVal h, hexVal l, pathUnescape rest' with
         | some a, some c, some r => some ((a <<< 4 ||| c) :: r)
         | _, _, _ => none)
      | _ => none
    else (pathUnescape rest).map (b :: ·)

theorem ne_of_keep {b c : UInt8} (hb : keep b = true) (hc : keep c = false) : b ≠ c := by
  rintro rfl
  cases hb.symm.trans hc

/-! The two nibbles of a byte: both are below 16, and they make the byte. -/

theorem shiftRight_four_lt (b : UInt8) : b >>> 4 < 16 := by
  rw [UInt8.lt_iff_toNat_lt, UInt8.toNat_shiftRight, Nat.shiftRight_eq_div_pow]
  exact Nat.div_lt_of_lt_mul b.toNat_lt

theorem and_fifteen_lt (b : UInt8) : b &&& 15 < 16 :=
  UInt8.lt_of_le_of_lt UInt8.and_le_right (by decide)

/-- `b >>> 4 <<< 4` is `b` under the mask `0xF0`, and `0xF0 ||| 0x0F` is all ones -/
theorem nibbles (b : UInt8) : (b >>> 4) <<< 4 ||| (b &&& 15) = b := by
  rw [← UInt8.toBitVec_inj]
  show b.toBitVec >>> 4 <<< 4 ||| b.toBitVec &&& 15#8 = b.toBitVec
  rw [BitVec.shiftLeft_ushiftRight, ← BitVec.and_or_distrib_left]
  exact BitVec.and_allOnes

/-- a fact about nibbles is checked on the sixteen of them -/
theorem forall_nibble {P : UInt8 → Prop} (h : ∀ i : Fin 16, P (UInt8.ofNat i)) (n : UInt8) (hn : n < 16) : P n := by
  have := h ⟨n.toNat, hn⟩
  simpa using this

theorem hexVal_hexDigit : ∀ n : UInt8, n < 16 → hexVal (hexDigit n) = some n :=
  forall_nibble (by decide)

theorem keep_hexDigit : ∀ n : UInt8, n < 16 → keep (hexDigit n) = true :=
  forall_nibble (by decide)

theorem escByte_subset {b x : UInt8} (hx : x ∈ escByte b) : x = 37 ∨ keep x = true := by
  unfold escByte at hx
  split at hx
  next hk => exact .inr (List.mem_singleton.mp hx ▸ hk)
  next =>
    simp only [List.mem_cons, List.not_mem_nil, or_false] at hx
    rcases hx with rfl | rfl | rfl
    · exact .inl rfl
    · exact .inr (keep_hexDigit _ (shiftRight_four_lt b))
    · exact .inr (keep_hexDigit _ (and_fifteen_lt b))

theorem escByte_ne_nil (b : UInt8) : escByte b ≠ [] := by
  fun_cases escByte b <;> exact List.cons_ne_nil _ _

theorem pathEscape_cons (b : UInt8) (s : Bytes) : pathEscape (b :: s) = escByte b ++ pathEscape s :=
  List.flatMap_cons

theorem pathEscape_eq_nil_iff (s : Bytes) : pathEscape s = [] ↔ s = [] := by
  cases s with
  | nil => exact iff_of_true rfl rfl
  | cons b s => simp [pathEscape_cons, escByte_ne_nil]

theorem unescape_keep (b : UInt8) (rest : Bytes) (hne : b ≠ 37) :
    pathUnescape (b :: rest) = (pathUnescape rest).map (b :: ·) := by
  rw [pathUnescape.eq_def]
  simp [hne]

theorem unescape_pct {h l a c : UInt8} (ha : hexVal h = some a) (hc : hexVal l = some c) (rest : Bytes) :
    pathUnescape (37 :: h :: l :: rest) = (pathUnescape rest).map ((a <<< 4 ||| c) :: ·) := by
  rw [pathUnescape, ha, hc]
  cases pathUnescape rest <;> rfl

theorem unescape_escByte (b : UInt8) (rest : Bytes) :
    pathUnescape (escByte b ++ rest) = (pathUnescape rest).map (b :: ·) := by
  fun_cases escByte b
  next hk => exact unescape_keep b rest (ne_of_keep hk (by decide))
  next =>
    have := unescape_pct (hexVal_hexDigit _ (shiftRight_four_lt b)) (hexVal_hexDigit _ (and_fifteen_lt b)) rest
    rwa [nibbles] at this

theorem unescape_escape (s : Bytes) : pathUnescape (pathEscape s) = some s := by
  induction s with
  | nil => rfl
  | cons b rest ih => rw [pathEscape_cons, unescape_escByte, ih, Option.map_some]

theorem escape_nodelim (s : Bytes) : ∀ x ∈ pathEscape s, x ≠ 47 ∧ x ≠ 63 ∧ x ≠ 35 := by
  intro x hx
  obtain ⟨b, _, hb⟩ := List.mem_flatMap.mp hx
  rcases escByte_subset hb with rfl | hk
  · decide
  · exact ⟨ne_of_keep hk (by decide), ne_of_keep hk (by decide), ne_of_keep hk (by decide)⟩

theorem escape_injective (s t : Bytes) (h : pathEscape s = pathEscape t) : s = t :=
  Option.some.inj (by rw [← unescape_escape s, h, unescape_escape t])

/-- the URL suffix of the unlock request for a lock id (locking/api.go httpLockClient.Unlock) -/
def unlockSuffix (id : Bytes) : Bytes := "locks/".toUTF8.toList ++ pathEscape id ++ "/unlock".toUTF8.toList
end UrlEsc
