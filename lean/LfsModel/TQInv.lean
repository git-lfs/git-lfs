import LfsModel.TQStep
/-
The accounting invariant `Inv` (C06): what a point update of the status map does to it, then every form of
an enabled event, every run, and what it says of a quiescent state.
-/
namespace TQ

theorem countP_set_notMem (l : List Oid) (f : Oid → Status) (o : Oid) (v : Status)
    (p : Status → Bool) (ho : o ∉ l) :
    l.countP (fun x => p (set f o v x)) = l.countP (fun x => p (f x)) :=
  List.countP_congr fun x hx => by
    have : x ≠ o := fun e => ho (e ▸ hx)
    rw [set_other f v this]

theorem countP_set (l : List Oid) (hn : l.Nodup) (f : Oid → Status) (o : Oid) (v : Status)
    (p : Status → Bool) (ho : o ∈ l) :
    (l.countP (fun x => p (set f o v x)) : Int) =
      (l.countP (fun x => p (f x)) : Int) - (if p (f o) then 1 else 0) + (if p v then 1 else 0) := by
  -- `l` is `o` and a rest without `o`, on which the update is not seen
  have hp := List.perm_cons_erase ho
  rw [hp.countP_eq, hp.countP_eq, List.countP_cons, List.countP_cons, set_same,
    countP_set_notMem _ f o v p hn.not_mem_erase]
  cases p (f o) <;> cases p v <;> simp <;> omega

/-- generic: replace the status of a known oid, adjusting the counter like wait.Done() would -/
theorem inv_update {s : State} (h : Inv s) (o : Oid) (v : Status) (hv : v ≠ .unknown)
    (ho : s.st o ≠ .unknown) (c : Int)
    (hc : s.aborted = false → c = s.counter - (if (s.st o).live then 1 else 0) + (if v.live then 1 else 0))
    (hd : ∀ x ∈ s.delivered, x ≠ o) :
    Inv { s with st := set s.st o v, counter := c } := by
  have hmem : o ∈ s.known := (h.known_iff o).mpr ho
  refine ⟨h.nodup, fun x => ?_, fun ha => ?_, fun x hx => ?_⟩
  · by_cases hx : x = o
    · subst hx
      simp [set_same, hv, hmem]
    · simp only [set_other s.st v hx]
      exact h.known_iff x
  · simp only [countSt]
    rw [countP_set s.known h.nodup s.st o v Status.live hmem, hc ha, h.acc ha]
    rfl
  · exact (set_other s.st v (hd x hx)).trans (h.deliv x hx)

theorem deliv_ne {s : State} (h : Inv s) {o : Oid} (ho : s.st o ≠ .term .delivered) :
    ∀ x ∈ s.delivered, x ≠ o := by
  intro x hx e
  subst e
  exact ho (h.deliv x hx)

theorem inv_done {s : State} (h : Inv s) (o : Oid) (t : Term) (hl : (s.st o).live = true)
    (e : Nat) (dl : List Oid) (hdl : ∀ x ∈ dl, x = o ∧ t = .delivered) :
    Inv (done { s with st := set s.st o (.term t), errors := e, delivered := s.delivered ++ dl }) := by
  have := inv_update h o (.term t) nofun (live_ne_unknown hl) (if s.aborted then s.counter else s.counter - 1)
    (by intro ha; rw [ha, if_pos hl]; simp [Status.live]) (deliv_ne h (live_ne_term hl _))
  rw [done_eq]
  refine ⟨this.nodup, this.known_iff, this.acc, fun x hx => ?_⟩
  rcases List.mem_append.mp hx with hx | hx
  · exact this.deliv x hx
  · obtain ⟨rfl, rfl⟩ := hdl x hx
    exact set_same _ _ _

theorem inv_move {s : State} (h : Inv s) (o : Oid) (v : Status) (hl : (s.st o).live = true)
    (hv : v.live = true) : Inv { s with st := set s.st o v } :=
  inv_update h o v (live_ne_unknown hv) (live_ne_unknown hl) s.counter (by intro _; simp [hl, hv])
    (deliv_ne h (live_ne_term hl _))

theorem inv_init (cap bs mr : Nat) : Inv { cap := cap, batchSize := bs, maxRetries := mr } :=
  ⟨List.nodup_nil, fun o => by simp, fun _ => rfl, fun o ho => by cases ho⟩

theorem inv_add_new {s : State} (h : Inv s) (o : Oid) (hu : s.st o = .unknown) :
    Inv { s with known := s.known ++ [o], st := set s.st o .incoming, adds := set s.adds o 1,
                 counter := if s.aborted then s.counter else s.counter + 1 } := by
  have hnm : o ∉ s.known := fun hm => (h.known_iff o).mp hm hu
  refine ⟨?_, fun x => ?_, fun ha => ?_, fun x hx => ?_⟩
  · exact (List.perm_append_singleton o s.known).nodup_iff.mpr (List.nodup_cons.mpr ⟨hnm, h.nodup⟩)
  · by_cases hx : x = o
    · subst hx
      simp [set_same]
    · simp only [List.mem_append, List.mem_singleton, hx, or_false, set_other s.st _ hx]
      exact h.known_iff x
  · simp only [countSt]
    rw [List.countP_append, countP_set_notMem s.known s.st o .incoming Status.live hnm, List.countP_singleton,
      set_same, if_neg (ne_true_of_eq_false ha), h.acc ha]
    rfl
  · exact (set_other s.st _ (deliv_ne h (by rw [hu]; nofun) x hx)).trans (h.deliv x hx)

/-- bulk relabelling of live oids by live statuses keeps the invariant (batchStart) -/
theorem inv_relabel {s : State} (h : Inv s) (g : Oid → Status)
    (hg : ∀ x, g x = s.st x ∨ ((s.st x).live = true ∧ (g x).live = true)) :
    Inv { s with st := g } := by
  refine ⟨h.nodup, fun x => ?_, fun ha => ?_, fun x hx => ?_⟩
  · rw [h.known_iff x]
    show s.st x ≠ .unknown ↔ g x ≠ .unknown
    rcases hg x with e | ⟨a, b⟩
    · rw [e]
    · exact ⟨fun _ => live_ne_unknown b, fun _ => live_ne_unknown a⟩
  · refine (h.acc ha).trans (congrArg Nat.cast (List.countP_congr fun x _ => ?_))
    show (s.st x).live = true ↔ (g x).live = true
    rcases hg x with e | ⟨a, b⟩
    · rw [e]
    · rw [a, b]
  · show g x = .term .delivered
    rcases hg x with e | ⟨a, _⟩
    · exact e.trans (h.deliv x hx)
    · exact absurd (h.deliv x hx) (live_ne_term a _)

theorem shape_inv {s s' : State} {e : Ev} (h : Inv s) (hs : Shape s e s') : Inv s' := by
  cases hs with
  | addNew o hu => exact inv_add_new h o hu
  | addAgain o dl hdl =>
    exact ⟨h.nodup, h.known_iff, h.acc, fun x hx => (List.mem_append.mp hx).elim (h.deliv x) (hdl x)⟩
  | move o v hl hv => exact inv_move h o v hl hv
  | finish o t n dl hl hdl =>
    have := inv_done h o t hl n dl hdl
    rwa [done_eq] at this
  | retry o hl =>
    -- the retry count goes up as well, and `Inv` does not read `rc`
    have := inv_move h o .retryOut hl rfl
    exact ⟨this.nodup, this.known_iff, this.acc, this.deliv⟩
  | batch os _ hw =>
    apply inv_relabel h
    intro x
    by_cases hx : x ∈ os
    · right
      simp only [hx, if_true]
      exact ⟨by rw [hw x hx]; rfl, rfl⟩
    · left; simp [hx]
  -- the invariant does not speak of the wait flags
  | _ => exact ⟨h.nodup, h.known_iff, h.acc, h.deliv⟩

/-- **C06.counter_accounting**: every enabled event preserves the accounting invariant. -/
theorem step_inv {s s' : State} {e : Ev} (h : Inv s) (hs : step s e = some s') : Inv s' :=
  shape_inv h (step_shape hs)

theorem inv_retryOrFail {s : State} (h : Inv s) (o : Oid) (hl : (s.st o).live = true) :
    Inv (retryOrFail s o) :=
  -- the forms of `retryOrFail` hold for any event: one has to be named
  shape_inv h (shape_retryOrFail (e := .waitCall) o hl)

theorem run_inv : ∀ (es : List Ev) {s s' : State}, Inv s → run s es = some s' → Inv s' :=
  run_induction step_inv

theorem countSt_zero_iff (s : State) (p : Status → Bool) :
    countSt s p = 0 ↔ ∀ o ∈ s.known, p (s.st o) = false := by
  simp only [countSt, List.countP_eq_zero, Bool.not_eq_true]

theorem inv_all_terminal {s : State} (h : Inv s) (hna : s.aborted = false) (hc : s.counter = 0) :
    ∀ o ∈ s.known, ∃ t, s.st o = .term t := by
  have hz : countSt s Status.live = 0 := Int.natCast_eq_zero.mp ((h.acc hna).symm.trans hc)
  intro o ho
  have hl := (countSt_zero_iff s _).mp hz o ho
  cases hst : s.st o with
  | unknown => exact absurd hst ((h.known_iff o).mp ho)
  | term t => exact ⟨t, rfl⟩
  | _ =>
    rw [hst] at hl
    cases hl

/-- `inv_all_terminal` at the end of a run of `step`: when `Wait` returns without abort every known oid is terminal;
which terminals exist is the conservation statement (before the D19 repair there was a fourth, unreported, one for
HTTP 422).  C06.conservation_at_quiescence says it of `xrun`. -/
theorem wait_return_all_terminal {s s' : State} (es : List Ev) (h0 : Inv s) (hr : run s es = some s')
    (hw : s'.waitReturned = true) (hna : s'.aborted = false) (hc : s'.counter = 0) :
    ∀ o ∈ s'.known, ∃ t, s'.st o = .term t :=
  inv_all_terminal (run_inv es h0 hr) hna hc

theorem inv_counter_nonneg {s : State} (h : Inv s) (hna : s.aborted = false) : 0 ≤ s.counter :=
  h.acc hna ▸ Int.natCast_nonneg _

theorem counter_nonneg {s s' : State} (es : List Ev) (h0 : Inv s) (hr : run s es = some s')
    (hna : s'.aborted = false) : 0 ≤ s'.counter :=
  inv_counter_nonneg (run_inv es h0 hr) hna

#print axioms step_inv
#print axioms wait_return_all_terminal

end TQ
