/-
C09's argument.  A command is compiled to a list of atomic file-system operations; SIGKILL =
any prefix.  Objects only ever appear by rename/link of a file whose content hashes to the name.
-/
namespace Crash
abbrev Bytes := List UInt8
abbrev Oid := Nat

inductive Path
  | tmp (n : Nat)          -- lfs/tmp/*, lfs/incomplete/<oid><random>
  | part (o : Oid)         -- lfs/incomplete/<oid>.part
  | obj (o : Oid)          -- lfs/objects/aa/bb/<oid>
  | bad (o : Oid)          -- lfs/bad/<oid>
  | ref (o : Oid)          -- an object of a reference (alternate) store
deriving DecidableEq, Repr

abbrev Fs := Path → Option Bytes

inductive Op
  | create (p : Path)                  -- O_CREATE|O_TRUNC of a temp/part file
  | append (p : Path) (b : Bytes)      -- one write burst
  | rename (src dst : Path)
  | link (src dst : Path)
  | unlink (p : Path)
deriving Repr

def upd (fs : Fs) (p : Path) (v : Option Bytes) : Fs := fun q => if q = p then v else fs q

def isObj : Path → Bool
  | .obj _ => true
  | _ => false

variable (H : Bytes → Oid)

/-- one operation; `none` = the operation breaks the storage discipline or fails.  That a given list of operations
never does is a separate statement: `exec_cleanOps` (CrashRerun) for the scenario `cleanOps`; the traced operations
of real runs are replayed by `CrashExec.replay`. -/
def step (fs : Fs) : Op → Option Fs
  | .create p => if isObj p then none else some (upd fs p (some []))
  | .append p b => if isObj p then none else
      match fs p with
      | some c => some (upd fs p (some (c ++ b)))
      | none => none
  | .rename src dst =>
      match fs src with
      | none => none
      | some c =>
        match dst with
        | .obj o => if H c = o ∧ !isObj src then some (upd (upd fs src none) dst (some c)) else none
        | _ => some (upd (upd fs src none) dst (some c))
  | .link src dst =>
      match fs src, fs dst with
      | some c, none =>
        (match dst with
         | .obj o => if H c = o then some (upd fs dst (some c)) else none
         | _ => some (upd fs dst (some c)))
      | _, _ => none
  | .unlink p => some (upd fs p none)

def Intact (fs : Fs) : Prop := ∀ o c, fs (.obj o) = some c → H c = o

theorem upd_same (fs : Fs) (p : Path) (v : Option Bytes) : upd fs p v p = v := by simp [upd]
theorem upd_other (fs : Fs) {p q : Path} (v : Option Bytes) (h : q ≠ p) : upd fs p v q = fs q := by simp [upd, h]

/-- a write keeps the store intact unless it puts under an object's name content that does not hash to it -/
theorem intact_upd {fs : Fs} {p : Path} {v : Option Bytes} (hv : ∀ o c, p = .obj o → v = some c → H c = o)
    (h : Intact H fs) : Intact H (upd fs p v) := by
  intro o c hc
  by_cases e : Path.obj o = p
  · rw [e, upd_same] at hc; exact hv o c e.symm hc
  · rw [upd_other fs v e] at hc; exact h o c hc

theorem intact_upd_nonobj (fs : Fs) (p : Path) (v : Option Bytes) (hp : isObj p = false)
    (h : Intact H fs) : Intact H (upd fs p v) :=
  intact_upd H (fun o c e _ => by rw [e] at hp; cases hp) h

theorem intact_upd_none (fs : Fs) (p : Path) (h : Intact H fs) : Intact H (upd fs p none) :=
  intact_upd H (fun o c _ e => by cases e) h

theorem intact_upd_obj (fs : Fs) (o : Oid) (c : Bytes) (hc : H c = o) (h : Intact H fs) :
    Intact H (upd fs (.obj o) (some c)) :=
  intact_upd H (fun o' c' e e' => by cases e; cases e'; exact hc) h

/-! What a successful step does, operation by operation.  For `rename` and `link` the discipline is one clause,
whatever kind of path the destination is: if it is an object's name, the content hashes to it. -/

theorem step_create {fs fs' : Fs} {p : Path} (hs : step H fs (.create p) = some fs') :
    isObj p = false ∧ fs' = upd fs p (some []) := by
  rw [step, Option.ite_none_left_eq_some, Bool.not_eq_true, Option.some_inj] at hs
  exact ⟨hs.1, hs.2.symm⟩

theorem step_append {fs fs' : Fs} {p : Path} {b : Bytes} (hs : step H fs (.append p b) = some fs') :
    isObj p = false ∧ ∃ c, fs p = some c ∧ fs' = upd fs p (some (c ++ b)) := by
  rw [step, Option.ite_none_left_eq_some, Bool.not_eq_true] at hs
  refine ⟨hs.1, ?_⟩
  split at hs
  · next c hc => exact ⟨c, hc, (Option.some.inj hs.2).symm⟩
  · cases hs.2

theorem step_rename {fs fs' : Fs} {src dst : Path} (hs : step H fs (.rename src dst) = some fs') :
    ∃ c, fs src = some c ∧ (∀ o, dst = .obj o → H c = o ∧ isObj src = false) ∧
      fs' = upd (upd fs src none) dst (some c) := by
  rw [step] at hs
  split at hs
  · cases hs
  · next c hc =>
    refine ⟨c, hc, ?_⟩
    split at hs
    · rw [Option.ite_none_right_eq_some, Option.some_inj] at hs
      exact ⟨fun o e => by cases e; simpa using hs.1, hs.2.symm⟩
    · next hd => exact ⟨fun o e => (hd o e).elim, (Option.some.inj hs).symm⟩

theorem step_link {fs fs' : Fs} {src dst : Path} (hs : step H fs (.link src dst) = some fs') :
    ∃ c, fs src = some c ∧ fs dst = none ∧ (∀ o, dst = .obj o → H c = o) ∧ fs' = upd fs dst (some c) := by
  rw [step] at hs
  split at hs
  · next c hc hn =>
    refine ⟨c, hc, hn, ?_⟩
    split at hs
    · rw [Option.ite_none_right_eq_some, Option.some_inj] at hs
      exact ⟨fun o e => by cases e; exact hs.1, hs.2.symm⟩
    · next hd => exact ⟨fun o e => (hd o e).elim, (Option.some.inj hs).symm⟩
  · cases hs

theorem step_unlink {fs fs' : Fs} {p : Path} (hs : step H fs (.unlink p) = some fs') : fs' = upd fs p none :=
  (Option.some.inj hs).symm

theorem step_intact (fs fs' : Fs) (op : Op) (h : Intact H fs) (hs : step H fs op = some fs') :
    Intact H fs' := by
  cases op with
  | create p =>
    obtain ⟨hp, rfl⟩ := step_create H hs
    exact intact_upd_nonobj H fs p _ hp h
  | append p b =>
    obtain ⟨hp, c, -, rfl⟩ := step_append H hs
    exact intact_upd_nonobj H fs p _ hp h
  | rename src dst =>
    obtain ⟨c, -, hd, rfl⟩ := step_rename H hs
    exact intact_upd H (fun o c' e e' => by cases e'; exact (hd o e).1) (intact_upd_none H fs src h)
  | link src dst =>
    obtain ⟨c, -, -, hd, rfl⟩ := step_link H hs
    exact intact_upd H (fun o c' e e' => by cases e'; exact hd o e) h
  | unlink p =>
    cases step_unlink H hs
    exact intact_upd_none H fs p h

def exec (fs : Fs) : List Op → Option Fs
  | [] => some fs
  | op :: ops => match step H fs op with
    | some fs' => exec fs' ops
    | none => none

theorem exec_append (a b : List Op) (fs : Fs) :
    exec H fs (a ++ b) = (exec H fs a).bind fun fs1 => exec H fs1 b := by
  fun_induction exec H fs a
  · rfl
  · next hs ih =>
    rw [List.cons_append, exec, hs]
    exact ih
  · next hs =>
    rw [List.cons_append, exec, hs]
    rfl

theorem exec_take {ops : List Op} {fs fsEnd : Fs} (he : exec H fs ops = some fsEnd) (k : Nat) :
    ∃ fsk, exec H fs (ops.take k) = some fsk := by
  rw [← List.take_append_drop k ops, exec_append] at he
  obtain ⟨fsk, hk, -⟩ := Option.bind_eq_some_iff.mp he
  exact ⟨fsk, hk⟩

theorem exec_induction {P : Fs → Prop} {ops : List Op}
    (hstep : ∀ op ∈ ops, ∀ f f', P f → step H f op = some f' → P f')
    {fs fs' : Fs} (h : P fs) (he : exec H fs ops = some fs') : P fs' := by
  fun_induction exec H fs ops
  · cases he; exact h
  · next fs op ops f hs ih =>
    exact ih (fun op' hop => hstep op' (List.mem_cons_of_mem _ hop)) (hstep op List.mem_cons_self fs f h hs) he
  · cases he

/-- **C09.prefix_intact**: if the whole list runs, every prefix runs and leaves the store intact -/
theorem prefix_intact (ops : List Op) : ∀ (fs fsEnd : Fs), Intact H fs → exec H fs ops = some fsEnd →
    ∀ k, ∃ fsk, exec H fs (ops.take k) = some fsk ∧ Intact H fsk := by
  intro fs fsEnd h he k
  obtain ⟨fsk, hk⟩ := exec_take H he k
  exact ⟨fsk, hk, exec_induction H (fun op _ f f' hf hs => step_intact H f f' op hf hs) h hk⟩

/-- the `git add` / clean scenario for one file: temp, write bursts, rename into place -/
def cleanOps (n : Nat) (bursts : List Bytes) : List Op :=
  .create (.tmp n) :: bursts.map (Op.append (.tmp n)) ++ [.rename (.tmp n) (.obj (H bursts.flatten))]

/-- non-vacuity: the scenario's op list does run (with H := length as a stand-in hash) -/
example : (exec (fun b => b.length) (fun _ => none) (cleanOps (fun b => b.length) 0 [[1,2],[3]])).isSome = true := by
  decide

#print axioms prefix_intact
end Crash
