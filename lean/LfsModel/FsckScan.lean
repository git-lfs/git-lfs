/-
C13, which pointers `git lfs fsck --objects` looks at (commands/command_fsck.go doFsckObjects +
lfs/gitscanner_refs.go): `git rev-list --objects --no-walk <commit>` lists every blob of the tree ONCE,
under the first path at which the walk meets it, and lfs.fetchexclude is applied to that one name.
A tree is the list of its (path, blob) entries in walk order.  Core-only, executable (Oracle `C13 scan`).
-/
namespace FsScan

/-- (blob, path) of the first occurrence of every blob -/
def firstNames : List (Nat × Nat) → List Nat → List (Nat × Nat)
  | [], _ => []
  | (p, b) :: rest, seen => if seen.contains b then firstNames rest seen else (b, p) :: firstNames rest (b :: seen)

/-- the blobs whose pointers fsck checks -/
def scanned (excluded : Nat → Bool) (t : List (Nat × Nat)) : List Nat :=
  ((firstNames t []).filter fun bp => !excluded bp.2).map (·.1)

/-- the blobs some path outside the exclusion needs -/
def needed (excluded : Nat → Bool) (t : List (Nat × Nat)) (b : Nat) : Prop :=
  ∃ p, (p, b) ∈ t ∧ excluded p = false

theorem firstNames_mem {t : List (Nat × Nat)} {seen : List Nat} {b p : Nat} (h : (b, p) ∈ firstNames t seen) :
    (p, b) ∈ t := by
  -- case2: the blob was seen before; case3: it is new
  fun_induction firstNames t seen with
  | case1 => cases h
  | case2 p' b' rest seen _ ih => exact List.mem_cons_of_mem _ (ih h)
  | case3 p' b' rest seen _ ih =>
    rcases List.mem_cons.mp h with heq | h
    · cases heq
      exact List.mem_cons_self
    · exact List.mem_cons_of_mem _ (ih h)

theorem firstNames_covers {t : List (Nat × Nat)} {seen : List Nat} {p b : Nat} (h : (p, b) ∈ t) (hs : b ∉ seen) :
    ∃ q, (b, q) ∈ firstNames t seen := by
  fun_induction firstNames t seen with
  | case1 => cases h
  | case2 p' b' rest seen hc ih =>
    have hb : b ≠ b' := fun he => hs (he ▸ List.contains_iff_mem.mp hc)
    exact ih ((List.mem_cons.mp h).resolve_left fun heq => hb (Prod.mk.inj heq).2) hs
  | case3 p' b' rest seen _ ih =>
    by_cases hb : b = b'
    · exact ⟨p', hb ▸ List.mem_cons_self⟩
    · obtain ⟨q, hq⟩ := ih ((List.mem_cons.mp h).resolve_left fun heq => hb (Prod.mk.inj heq).2) (by simp [hb, hs])
      exact ⟨q, List.mem_cons_of_mem _ hq⟩

theorem mem_scanned {excluded : Nat → Bool} {t : List (Nat × Nat)} {b : Nat} :
    b ∈ scanned excluded t ↔ ∃ p, (b, p) ∈ firstNames t [] ∧ excluded p = false := by
  simp [scanned]

end FsScan
