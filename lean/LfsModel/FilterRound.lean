import LfsModel.FilterProofs
import LfsModel.PtrRound
/-
Round trip facts used by C08.no_pointer_to_pointer and C01: the pointer that clean emits is a
`Valid` pointer, so (C07.dec_enc) it decodes to itself.
-/
namespace Flt
open Lfs

theorem emitted_valid {oid : Bytes} {n : Nat} (ho : isOid oid = true) (hn : n ≠ 0) (hle : n ≤ maxInt64) :
    Valid { oid := oid, size := n, exts := [] } := by
  refine ⟨ho, hn, hle, List.forall_mem_nil _, List.Pairwise.nil, ?_⟩
  -- keys, blanks, line ends and the oid make 125 bytes; an int64 has at most 19 digits
  have hl := toDec_length_le 18 n (Nat.lt_of_le_of_lt hle (by decide))
  have henc : (enc { oid := oid, size := n, exts := [] }).length = 124 + (toDec n).length + 1 := by
    rw [enc, if_neg hn]
    simp only [List.length_append, (isOid_spec ho).1]
    rfl
  show _ < 1024
  omega

theorem dec_emitted {oid b : Bytes} (ho : isOid oid = true) (hne : b ≠ []) (hle : b.length ≤ maxInt64) :
    dec (CleanRes.stored oid b).out = .ok ({ oid := oid, size := b.length, exts := [] }, true) :=
  Lfs.dec_enc (emitted_valid ho (mt List.eq_nil_of_length_eq_zero hne) hle)

theorem enc_ne_nil {p : Ptr} (h : p.size ≠ 0) : enc p ≠ [] :=
  mt (enc_eq_nil_iff p).mp h

end Flt
