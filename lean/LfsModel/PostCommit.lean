/-
C16, which files the post-commit hook looks at (commands/command_post_commit.go + git.GetFilesChanged):
`git diff-tree --no-commit-id --name-only -r --root -m HEAD` — the paths in which the commit's tree
differs from a parent's tree, for EVERY parent; a commit without parents is compared with the empty tree.
Trees are lists of (path, blob).  Core-only, executable (Oracle `C16 changed`).
-/
namespace PostCommit

abbrev Tree := List (Nat × Nat)

def lookup (t : Tree) (p : Nat) : Option Nat := (t.find? fun e => e.1 == p).map (·.2)

/-- paths whose entry differs between two trees (added, modified or removed) -/
def diffPaths (old new : Tree) : List Nat :=
  (new.filter fun e => lookup old e.1 != some e.2).map (·.1) ++
  (old.filter fun e => lookup new e.1 == none).map (·.1)

/-- the list the hook works on -/
def changed (parents : List Tree) (t : Tree) : List Nat :=
  match parents with
  | [] => diffPaths [] t
  | ps => ps.flatMap fun p => diffPaths p t

theorem lookup_ne_none {t : Tree} {p b : Nat} (h : (p, b) ∈ t) : lookup t p ≠ none := by
  simp only [lookup, ne_eq, Option.map_eq_none_iff, List.find?_eq_none]
  exact fun hall => hall (p, b) h (beq_self_eq_true p)

theorem mem_diffPaths {old new : Tree} {p : Nat} :
    p ∈ diffPaths old new ↔
      (∃ b, (p, b) ∈ new ∧ lookup old p ≠ some b) ∨ (∃ b, (p, b) ∈ old ∧ lookup new p = none) := by
  simp only [diffPaths, List.mem_append, List.mem_map, List.mem_filter, Prod.exists, bne_iff_ne,
    beq_iff_eq, exists_eq_right, exists_and_right]

theorem mem_changed {parents : List Tree} {t : Tree} {p : Nat} (h : parents ≠ []) :
    p ∈ changed parents t ↔ ∃ par ∈ parents, p ∈ diffPaths par t := by
  cases parents with
  | nil => exact absurd rfl h
  | cons q qs => exact List.mem_flatMap

/-- non-vacuity: a root commit, and a merge whose second parent lacks a file -/
example : changed [] [(1, 10), (2, 20)] = [1, 2] := by decide
example : changed [[(1, 10), (2, 20)], [(1, 10)]] [(1, 10), (2, 20)] = [2] := by decide

/-! ### which files the hook LOOKS AT (D87): the changed ones — or all of them when an attributes file changed -/

/-- `isAttr p`: the path is a .gitattributes file; `all`: every path of the work tree -/
def looked (isAttr : Nat → Bool) (all : List Nat) (chg : List Nat) : List Nat :=
  if chg.any isAttr then all else chg

/-- nothing that changed is ever left out -/
theorem changed_is_looked_at (isAttr : Nat → Bool) (all chg : List Nat) (hsub : ∀ p ∈ chg, p ∈ all) (p : Nat) (hp : p ∈ chg) :
    p ∈ looked isAttr all chg := by
  unfold looked
  split
  · exact hsub p hp
  · exact hp

end PostCommit
