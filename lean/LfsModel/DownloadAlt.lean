/-
C02, the other download adapters.
  * tq/custom.go (customAdapter.DoTransfer, download direction; also the standalone `file://` agent,
    which is a custom adapter whose agent is `git-lfs standalone-file`): the agent reports a file, git-lfs
    re-hashes THAT FILE (tools.VerifyFileHash) and only then renames it onto the final path.
  * tq/ssh.go (SSHAdapter.download / doDownload): a fresh private temp file, the object streamed through a
    hasher into it, rename only when the streamed bytes hash to the oid.
Both as total functions over a script of what the other side says.  Core-only; `H` (SHA-256) is a parameter.
-/
import LfsModel.Download

namespace DlAlt
open Dl

/-- one line the custom transfer agent writes -/
inductive Msg
  | unreadable                                   -- EOF on the agent's stdout, or a line that is not JSON
  | progress (oidOk : Bool)
  | complete (oidOk : Bool) (err : Bool) (file : Option Bytes)
      -- `file`: what is at the path the agent names, at the time git-lfs hashes it (none: nothing there)
  | other                                        -- a well-formed message with another event name
deriving Repr

variable (H : Bytes → Bytes)

/-- customAdapter.DoTransfer after the request was sent (tq/custom.go) -/
def customRun (oid : Bytes) : List Msg → Option Bytes → Res × Option Bytes
  | [], final => (.fail false false, final)                       -- the agent went away
  | .unreadable :: _, final => (.fail false false, final)
  | .other :: _, final => (.fail false false, final)
  | .progress ok :: rest, final => if ok then customRun oid rest final else (.fail false false, final)
  | .complete ok err file :: _, final =>
    if !ok then (.fail false false, final)
    else if err then (.fail false false, final)
    else match file with
      | none => (.fail false false, final)                         -- VerifyFileHash cannot open it
      | some c => if H c = oid then (.ok, some c)                   -- rename(2) onto the final path
                  else (.fail false false, final)

theorem customRun_spec (oid : Bytes) (msgs : List Msg) (final : Option Bytes) :
    GoodRes H oid final (customRun H oid msgs final).1 (customRun H oid msgs final).2 := by
  fun_induction customRun H oid msgs final
  case case4 ih => exact ih                          -- progress: the rest of the conversation decides
  case case9 h => exact goodRes_ok H h               -- the one success: the file named hashes to the oid
  all_goals exact goodRes_fail ..

/-- what the pure-SSH server answers to `get-object` -/
structure SshResp where
  connErr : Bool := false              -- no connection / write or read error before a status was read
  status : Nat := 200
  sizeArgs : List (Option Int) := [some 0]
      -- every `size=` argument in order: none = not a number; the value is NOT compared with anything
  data : Bytes := []
  readErr : Bool := false              -- the data stream breaks off INSIDE a packet (a stream that merely ends
                                       -- at a packet boundary, without its flush packet, reads as the end of the data)
deriving Repr

/-- the argument loop of doDownload: exactly one `size=` with a non-negative number -/
def sizeOk : List (Option Int) → Bool
  | [some n] => decide (0 ≤ n)
  | _ => false

/-- SSHAdapter.doDownload: the temp file is fresh and private, so file = hashed stream -/
def sshRun (oid : Bytes) (r : SshResp) (final : Option Bytes) : Res × Option Bytes :=
  if r.connErr then (.fail false false, final)
  else if r.status < 200 ∨ 299 < r.status then (.fail true false, final)
  else if !sizeOk r.sizeArgs then (.fail false false, final)
  else if r.readErr then (.fail false false, final)
  else if H r.data ≠ oid then (.fail false false, final)
  else (.ok, some r.data)

theorem sshRun_spec (oid : Bytes) (r : SshResp) (final : Option Bytes) :
    GoodRes H oid final (sshRun H oid r final).1 (sshRun H oid r final).2 := by
  fun_cases sshRun H oid r final
  case case6 h => exact goodRes_ok H (Decidable.of_not_not h)
  all_goals exact goodRes_fail ..

end DlAlt
