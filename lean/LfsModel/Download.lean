/-
tq/basic_download.go (DoTransfer + download) as a total function over a server script.
Core-only.  `H` (SHA-256) is a parameter.
-/
namespace Dl

abbrev Bytes := List UInt8

/-- one scripted answer of the storage server -/
structure Resp where
  noResponse : Bool := false        -- transport error before any response
  status : Nat := 200
  rangeStart : Option (Option Nat) := none
    -- none: no Content-Range header; some none: header present but unparsable;
    -- some (some k): `bytes k-…` (after the regex and ParseInt; overflow ⇒ some MaxInt64)
  body : Bytes := []
  cutErr : Bool := false            -- the body ends with a read error after `body`
  retryAfterOk : Bool := false      -- 429 with a parsable Retry-After
deriving Repr

inductive Res
  | ok
  | fail (retriable : Bool) (later : Bool)
deriving DecidableEq, Repr

structure Files where
  part : Option Bytes      -- lfs/incomplete/<oid>.part
  final : Option Bytes     -- lfs/objects/aa/bb/<oid>
deriving DecidableEq, Repr

/-- state of one `download` call: temp file content and the bytes fed to the hasher so far -/
structure Tmp where
  file : Bytes
  hashed : Bytes
deriving DecidableEq, Repr

variable (H : Bytes → Bytes)

/-- the tail of `download` once a response body is going to be consumed -/
def consume (oid : Bytes) (t : Tmp) (r : Resp) (final : Option Bytes) : Res × Tmp × Option Bytes :=
  let t' : Tmp := { file := t.file ++ r.body, hashed := t.hashed ++ r.body }
  if r.cutErr then (.fail true false, t', final)            -- wrapped copy error (RetriableReader)
  else if H t'.hashed ≠ oid then (.fail false false, t', final)
  else (.ok, t', some t'.file)      -- rename(2) into place, replacing whatever was there
  -- (a failing rename returns nil as well when the file then at the final path verifies
  --  (tools.VerifyFileHash): that branch needs a file-system fault and is not modelled; it reports
  --  success over a final file that hashes to the oid, which is what `Good` asks of a success)

/-- the error statuses of `download` for a request made with `fromByte = 0` -/
def errorStatus (r : Resp) : Res :=
  if r.status = 429 ∧ r.retryAfterOk then .fail true true else .fail true false

/-- `download` with fromByte = 0 (no branch recurses) -/
def downloadFresh (oid : Bytes) (script : List Resp) (final : Option Bytes) : Res × Tmp × Option Bytes :=
  match script with
  | [] => (.fail true false, ⟨[], []⟩, final)                 -- no answer at all
  | r :: _ =>
    if r.noResponse then (.fail true false, ⟨[], []⟩, final)
    else if 400 ≤ r.status then (errorStatus r, ⟨[], []⟩, final)
    else consume H oid ⟨[], []⟩ r final

/-- `download` with fromByte = |t.file| > 0 and a preloaded hash -/
def downloadResume (oid : Bytes) (t : Tmp) (script : List Resp) (final : Option Bytes) :
    Res × Tmp × Option Bytes :=
  match script with
  | [] => (.fail true false, t, final)
  | r :: rest =>
    if r.noResponse then (.fail true false, t, final)
    else if 400 ≤ r.status then
      if r.status = 416 then downloadFresh H oid rest final   -- truncate, start over
      else (errorStatus r, t, final)
    else
      let rangeOk := r.status = 206 ∧ r.rangeStart = some (some t.file.length)
      if rangeOk then consume H oid t r final
      else if r.status = 200 then consume H oid ⟨[], []⟩ r final   -- truncate, drop hash, use this body
      else downloadFresh H oid rest final                     -- truncate, re-request

/-- basicDownloadAdapter.DoTransfer -/
def doTransfer (oid : Bytes) (size : Nat) (fs : Files) (script : List Resp) : Res × Files :=
  let tmp0 : Bytes := fs.part.getD []
  -- "Ensure that partial file seems valid": 0 < from < size-1 resumes, otherwise truncate
  let (res, t, final) :=
    if 0 < tmp0.length ∧ tmp0.length + 1 < size then
      downloadResume H oid ⟨tmp0, tmp0⟩ script fs.final
    else downloadFresh H oid script fs.final
  match res with
  | .ok => (.ok, { part := none, final := final })
  | r => (r, { part := some t.file, final := final })       -- hand the temp over as the next .part

/-- what C02 demands of one call's outcome, given the prior content of the final path -/
def Good (oid : Bytes) (final : Option Bytes) (out : Res × Tmp × Option Bytes) : Prop :=
  (out.1 = .ok → ∃ c, out.2.2 = some c ∧ H c = oid) ∧ (out.1 ≠ .ok → out.2.2 = final)

/-- `Good` with the result and the new content of the final path given one by one, for adapters whose
outcome has another shape (DownloadAlt): `Good H oid final out` is `GoodRes H oid final out.1 out.2.2` -/
def GoodRes (oid : Bytes) (final : Option Bytes) (res : Res) (final' : Option Bytes) : Prop :=
  (res = .ok → ∃ c, final' = some c ∧ H c = oid) ∧ (res ≠ .ok → final' = final)

theorem goodRes_fail (oid : Bytes) (final : Option Bytes) (a b : Bool) :
    GoodRes H oid final (.fail a b) final :=
  ⟨nofun, fun _ => rfl⟩

theorem goodRes_ok {oid : Bytes} {final : Option Bytes} {c : Bytes} (h : H c = oid) :
    GoodRes H oid final .ok (some c) :=
  ⟨fun _ => ⟨c, rfl, h⟩, fun h => absurd rfl h⟩

theorem good_fail (oid : Bytes) (final : Option Bytes) (a b : Bool) (t : Tmp) :
    Good H oid final (.fail a b, t, final) :=
  goodRes_fail H oid final a b

theorem good_errorStatus (oid : Bytes) (final : Option Bytes) (r : Resp) (t : Tmp) :
    Good H oid final (errorStatus r, t, final) := by
  fun_cases errorStatus r
  · exact good_fail ..
  · exact good_fail ..

theorem consume_tmp (oid : Bytes) (t : Tmp) (r : Resp) (final : Option Bytes) :
    (consume H oid t r final).2.1 = ⟨t.file ++ r.body, t.hashed ++ r.body⟩ := by
  fun_cases consume H oid t r final <;> rfl

/-- the hash that is compared is the hash of the file that is renamed -/
theorem consume_spec (oid : Bytes) (t : Tmp) (r : Resp) (final : Option Bytes)
    (hinv : t.hashed = t.file) :
    Good H oid final (consume H oid t r final) := by
  -- the copy breaks off; the hash is not the oid; it is, and the file is renamed into place
  fun_cases consume H oid t r final
  · exact good_fail ..
  · exact good_fail ..
  · next hh =>
    exact goodRes_ok H (hinv ▸ Decidable.of_not_not hh : H (t.file ++ r.body) = oid)

theorem fresh_spec (oid : Bytes) (script : List Resp) (final : Option Bytes) :
    Good H oid final (downloadFresh H oid script final) := by
  -- no answer, no response, an error status, a body
  fun_cases downloadFresh H oid script final
  · exact good_fail ..
  · exact good_fail ..
  · exact good_errorStatus ..
  · exact consume_spec H oid _ _ final rfl

theorem resume_spec (oid : Bytes) (t : Tmp) (script : List Resp) (final : Option Bytes)
    (hinv : t.hashed = t.file) :
    Good H oid final (downloadResume H oid t script final) := by
  -- no answer, no response, 416, another error status; then 206 with the range asked for, 200, anything else
  fun_cases downloadResume H oid t script final
  · exact good_fail ..
  · exact good_fail ..
  · exact fresh_spec ..
  · exact good_errorStatus ..
  · exact consume_spec H oid t _ final hinv
  · exact consume_spec H oid _ _ final rfl
  · exact fresh_spec ..

/-- **C02.basic_download_spec** (and from it basic_success_hash, basic_failure_no_final_change) -/
theorem doTransfer_spec (oid : Bytes) (size : Nat) (fs : Files) (script : List Resp) :
    ((doTransfer H oid size fs script).1 = .ok →
        ∃ c, (doTransfer H oid size fs script).2.final = some c ∧ H c = oid) ∧
    ((doTransfer H oid size fs script).1 ≠ .ok →
        (doTransfer H oid size fs script).2.final = fs.final) := by
  fun_cases doTransfer H oid size fs script
  -- two cases, `.ok` or not; in both the last hypothesis is `(if … then downloadResume … else downloadFresh …) =
  -- (res, t, final)` and the goal unfolds from `Good H oid fs.final (res, t, final)`
  all_goals
    rename_i hout
    refine Eq.subst (motive := Good H oid fs.final) hout ?_
    split
    · exact resume_spec H oid _ script fs.final rfl
    · exact fresh_spec H oid script fs.final

/-- non-vacuity: a garbage `.part`, a wrong Content-Range, then the right body -/
example : (doTransfer (fun b => b) [1,2,3] 3 ⟨some [9], none⟩
    [{ status := 206, rangeStart := some (some 0), body := [7] }, { status := 200, body := [1,2,3] }]).1 = .ok :=
  rfl

#print axioms doTransfer_spec
end Dl
