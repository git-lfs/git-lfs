import LfsModel.Pointer
/-
Text-level facts under the pointer round trip: byte classes and the decimal digits of a size, the lines of
the canonical encoding, and what `bufio.ScanLines` and `bytes.TrimSpace` do on text of that shape.
-/
namespace Lfs

theorem isDigit_iff {c : UInt8} : isDigit c = true ↔ 48 ≤ c.toNat ∧ c.toNat ≤ 57 := by
  simp only [isDigit, Bool.and_eq_true, decide_eq_true_eq, UInt8.le_iff_toNat_le]
  exact Iff.rfl

theorem digit_toNat {c : UInt8} (h : isDigit c = true) : 48 ≤ c.toNat ∧ c.toNat ≤ 57 :=
  isDigit_iff.mp h

theorem ne_of_toNat_ne {c d : UInt8} (h : c.toNat ≠ d.toNat) : c ≠ d := fun e => h (e ▸ rfl)

theorem notSpace_of_toNat {c : UInt8} (h : 33 ≤ c.toNat) : isAsciiSpace c = false := by
  apply Bool.eq_false_iff.mpr
  intro hs
  simp only [isAsciiSpace, Bool.or_eq_true, beq_iff_eq] at hs
  rcases hs with ((((rfl | rfl) | rfl) | rfl) | rfl) | rfl <;> exact absurd h (by decide)

theorem ofNat_digit {k : Nat} (hk : k < 10) : (UInt8.ofNat (48 + k)).toNat = 48 + k :=
  UInt8.toNat_ofNat_of_lt' (Nat.lt_trans (Nat.add_lt_add_left hk 48) (by decide))

theorem isDigit_ofNat {k : Nat} (hk : k < 10) : isDigit (UInt8.ofNat (48 + k)) = true := by
  rw [isDigit_iff, ofNat_digit hk]
  omega

theorem toDec_small {k : Nat} (h : k < 10) : toDec k = [UInt8.ofNat (48 + k)] := by
  rw [toDec, dif_pos h]

theorem toDec_step {n : Nat} (h : 10 ≤ n) :
    toDec n = toDec (n / 10) ++ [UInt8.ofNat (48 + n % 10)] := by
  rw [toDec, dif_neg (Nat.not_lt.mpr h)]

theorem toDec_length_le : ∀ (k n : Nat), n < 10 ^ (k + 1) → (toDec n).length ≤ k + 1 := by
  intro k
  induction k with
  | zero =>
    intro n hn
    rw [toDec_small hn]
    exact Nat.le_refl 1
  | succ k ih =>
    intro n hn
    by_cases h : n < 10
    · rw [toDec_small h]
      exact Nat.succ_le_succ (Nat.zero_le _)
    · rw [toDec_step (Nat.le_of_not_lt h), List.length_append]
      exact Nat.succ_le_succ (ih (n / 10) (Nat.div_lt_of_lt_mul (by rwa [Nat.pow_succ, Nat.mul_comm] at hn)))

theorem parseDigits_append (xs ys : Bytes) (acc : Nat) :
    parseDigits (xs ++ ys) acc = (parseDigits xs acc).bind (fun a => parseDigits ys a) := by
  fun_induction parseDigits xs acc with
  | case1 acc => rfl
  | case2 c rest acc h ih => rw [List.cons_append, parseDigits, if_pos h, ih]
  | case3 c rest acc h =>
    rw [List.cons_append, parseDigits, if_neg h]
    rfl

theorem parseDigits_digit {k : Nat} (hk : k < 10) (acc : Nat) :
    parseDigits [UInt8.ofNat (48 + k)] acc = some (acc * 10 + k) := by
  simp only [parseDigits, isDigit_ofNat hk, if_true, ofNat_digit hk, Nat.add_sub_cancel_left]

theorem toDec_all_digits (n : Nat) : ∀ c ∈ toDec n, isDigit c = true := by
  fun_induction toDec n with
  | case1 n h => exact List.forall_mem_singleton.mpr (isDigit_ofNat h)
  | case2 n h ih =>
    exact List.forall_mem_append.mpr
      ⟨ih, List.forall_mem_singleton.mpr (isDigit_ofNat (Nat.mod_lt _ (by decide)))⟩

theorem toDec_last (n : Nat) : ∃ ys d, toDec n = ys ++ [d] ∧ isDigit d = true := by
  fun_cases toDec n with
  | case1 h => exact ⟨[], _, rfl, isDigit_ofNat h⟩
  | case2 h => exact ⟨_, _, rfl, isDigit_ofNat (Nat.mod_lt _ (by decide))⟩

theorem toDec_ne_nil (n : Nat) : toDec n ≠ [] := by
  obtain ⟨ys, d, h, _⟩ := toDec_last n
  rw [h]
  exact List.concat_ne_nil _ _

theorem parseDigits_toDec (n : Nat) : parseDigits (toDec n) 0 = some n := by
  fun_induction toDec n with
  | case1 n h => rw [parseDigits_digit h, Nat.zero_mul, Nat.zero_add]
  | case2 n h ih =>
    rw [parseDigits_append, ih, Option.bind_some, parseDigits_digit (Nat.mod_lt _ (by decide)),
      Nat.div_add_mod']

theorem toDec_head (n : Nat) : ∃ c cs, toDec n = c :: cs ∧ isDigit c = true :=
  match h : toDec n, toDec_ne_nil n with
  | c :: cs, _ => ⟨c, cs, rfl, toDec_all_digits n c (h ▸ List.mem_cons_self)⟩

theorem parseSize_toDec {n : Nat} (hn : n ≤ maxInt64) : parseSize (toDec n) = some n := by
  obtain ⟨c, cs, hcs, hd⟩ := toDec_head n
  have hc := (digit_toNat hd).1
  have hpd := parseDigits_toDec n
  rw [hcs] at hpd ⊢
  -- a digit is neither `+` nor `-`, so the last branch of `parseSize` is taken
  rw [parseSize, hpd, Option.bind_some, if_pos hn]
  · nofun
  · rintro _ ⟨⟩
    exact absurd hc (by decide)
  · rintro _ ⟨⟩
    exact absurd hc (by decide)

#print axioms parseSize_toDec

/-! ### line structure of the canonical encoding -/
def verLine : Bytes := kVersion ++ [32] ++ latest
def extKey (e : Ext) : Bytes := extDash ++ toDec e.prio ++ [45] ++ e.name
def extVal (e : Ext) : Bytes := sha256Colon ++ e.oid
def extLine (e : Ext) : Bytes := extKey e ++ [32] ++ extVal e
def oidLine (p : Ptr) : Bytes := kOid ++ [32] ++ (sha256Colon ++ p.oid)
def sizeLine (p : Ptr) : Bytes := kSize ++ [32] ++ toDec p.size
def initLines (p : Ptr) : List Bytes := verLine :: (p.exts.map extLine ++ [oidLine p])

def unlines (ls : List Bytes) : Bytes := (ls.map (· ++ [10])).flatten

theorem encExt_eq (e : Ext) : encExt e = extLine e ++ [10] := by
  rw [extLine, extVal, ← List.append_assoc]
  rfl

theorem unlines_nil : unlines [] = [] := rfl

theorem unlines_cons (l : Bytes) (ls : List Bytes) : unlines (l :: ls) = l ++ [10] ++ unlines ls :=
  List.flatten_cons

theorem unlines_append (a b : List Bytes) : unlines (a ++ b) = unlines a ++ unlines b := by
  rw [unlines, List.map_append, List.flatten_append]
  rfl

theorem flatten_encExt (es : List Ext) : (es.map encExt).flatten = unlines (es.map extLine) := by
  rw [unlines, List.map_map]
  exact congrArg _ (List.map_congr_left fun e _ => encExt_eq e)

theorem enc_eq (p : Ptr) (h : p.size ≠ 0) : enc p = (unlines (initLines p) ++ sizeLine p) ++ [10] := by
  -- `enc` nests its appends to the left: bring the right-hand side to that form
  simp only [enc, if_neg h, flatten_encExt, initLines, unlines_cons, unlines_append, unlines_nil,
    verLine, oidLine, sizeLine, List.append_nil, ← List.append_assoc]

/-! ### bufio.ScanLines on LF-free lines -/
theorem splitLF_append (l r : Bytes) (h : (10 : UInt8) ∉ l) (cur : Bytes) :
    splitLF (l ++ r) cur = splitLF r (l.reverse ++ cur) := by
  induction l generalizing cur with
  | nil => rfl
  | cons c cs ih =>
    rw [List.cons_append, splitLF, if_neg (List.ne_of_not_mem_cons h).symm,
      ih (List.not_mem_of_not_mem_cons h), List.reverse_cons, List.append_assoc]
    rfl

theorem splitLF_nolf (l : Bytes) (h : (10 : UInt8) ∉ l) (cur : Bytes) :
    splitLF l cur = if (cur.reverse ++ l).isEmpty then [] else [cur.reverse ++ l] := by
  have := splitLF_append l [] h cur
  rw [List.append_nil] at this
  rw [this, splitLF, ← List.isEmpty_reverse, List.reverse_append, List.reverse_reverse]

theorem splitLF_line (l rest : Bytes) (h : (10 : UInt8) ∉ l) (cur : Bytes) :
    splitLF (l ++ 10 :: rest) cur = (cur.reverse ++ l) :: splitLF rest [] := by
  rw [splitLF_append l _ h, splitLF, if_pos rfl, List.reverse_append, List.reverse_reverse]

theorem splitLF_unlines (ls : List Bytes) (last : Bytes) (hls : ∀ l ∈ ls, (10 : UInt8) ∉ l)
    (hlast : (10 : UInt8) ∉ last) (hne : last ≠ []) :
    splitLF (unlines ls ++ last) [] = ls ++ [last] := by
  induction ls with
  | nil =>
    show splitLF last [] = [last]
    rw [splitLF_nolf last hlast]
    simp [hne]
  | cons l ls ih =>
    have ⟨hl, hls'⟩ := List.forall_mem_cons.mp hls
    rw [unlines_cons, List.append_assoc, List.append_assoc, List.singleton_append,
      splitLF_line l _ hl, ih hls']
    rfl

/-! ### bytes.TrimSpace on a line of printable ASCII
Every entry of `uniSpaces` begins and ends with a byte ≥ 128, so a printable ASCII byte stops the scan
from either side. -/
def headHigh (e : Bytes) : Bool := match e with | h :: _ => decide (128 ≤ h.toNat) | [] => false

theorem headHigh_spec {e : Bytes} (h : headHigh e = true) : ∃ h t, e = h :: t ∧ 128 ≤ h.toNat := by
  cases e with
  | nil => cases h
  | cons a t => exact ⟨a, t, rfl, of_decide_eq_true h⟩

theorem tbl_heads : ∀ e ∈ uniSpaces, ∃ h t, e = h :: t ∧ 128 ≤ h.toNat :=
  fun e he => headHigh_spec (List.all_eq_true.mp (by decide : uniSpaces.all headHigh = true) e he)

theorem tblR_heads : ∀ e ∈ uniSpaces.map List.reverse, ∃ h t, e = h :: t ∧ 128 ≤ h.toNat :=
  fun e he => headHigh_spec
    (List.all_eq_true.mp (by decide : (uniSpaces.map List.reverse).all headHigh = true) e he)

theorem spaceWidth_zero (tbl : List Bytes) (htbl : ∀ e ∈ tbl, ∃ h t, e = h :: t ∧ 128 ≤ h.toNat)
    (c : UInt8) (r : Bytes) (h1 : 33 ≤ c.toNat) (h2 : c.toNat < 128) : spaceWidth tbl (c :: r) = 0 := by
  have hfind : tbl.find? (fun e => e.isPrefixOf (c :: r)) = none := by
    apply List.find?_eq_none.mpr
    intro e he
    obtain ⟨a, t, rfl, ha⟩ := htbl e he
    have : a ≠ c := ne_of_toNat_ne (Nat.ne_of_gt (Nat.lt_of_lt_of_le h2 ha))
    rw [List.isPrefixOf_cons_cons, show (a == c) = false from decide_eq_false this]
    exact Bool.false_ne_true
  rw [spaceWidth, notSpace_of_toNat h1, hfind]
  rfl

theorem trimLeftWith_stop (tbl : List Bytes) (fuel : Nat) (b : Bytes) (h : spaceWidth tbl b = 0) :
    trimLeftWith tbl fuel b = b := by
  cases fuel with
  | zero => rfl
  | succ f => exact if_pos h

theorem trimLeftWith_step (tbl : List Bytes) (f : Nat) (b : Bytes) (w : Nat)
    (h : spaceWidth tbl b = w) (hw : w ≠ 0) :
    trimLeftWith tbl (f + 1) b = trimLeftWith tbl f (b.drop w) := by
  subst h
  exact if_neg hw

theorem spaceWidth_lf (tbl : List Bytes) (r : Bytes) : spaceWidth tbl (10 :: r) = 1 := rfl

/-- From text that begins and ends with a printable ASCII byte, `bytes.TrimSpace` removes a final LF
and nothing else. -/
theorem trimSpace_line {x : Bytes} {c d : UInt8} (hc : x.head? = some c) (hd : x.getLast? = some d)
    (hc1 : 33 ≤ c.toNat) (hc2 : c.toNat < 128) (hd1 : 33 ≤ d.toNat) (hd2 : d.toNat < 128) :
    trimSpace (x ++ [10]) = x := by
  obtain ⟨t, rfl⟩ := List.head?_eq_some_iff.mp hc
  obtain ⟨s, hs⟩ := List.getLast?_eq_some_iff.mp hd
  have hl : trimLeft (c :: t ++ [10]) = c :: t ++ [10] :=
    trimLeftWith_stop _ _ _ (spaceWidth_zero _ tbl_heads c _ hc1 hc2)
  have hr : (c :: t ++ [10]).reverse = 10 :: d :: s.reverse := by
    rw [hs, List.reverse_append, List.reverse_append]
    rfl
  -- from the right: one step over the LF, then `d` stops the scan
  rw [trimSpace, hl, trimRight, hr, List.length_append, List.length_singleton,
    trimLeftWith_step _ _ _ 1 (spaceWidth_lf _ _) (by decide), List.drop_one, List.tail_cons,
    trimLeftWith_stop _ _ _ (spaceWidth_zero _ tblR_heads d _ hd1 hd2), hs, List.reverse_cons,
    List.reverse_reverse]

theorem trimSpace_shape (c d : UInt8) (mid : Bytes)
    (hc1 : 33 ≤ c.toNat) (hc2 : c.toNat < 128) (hd1 : 33 ≤ d.toNat) (hd2 : d.toNat < 128) :
    trimSpace (c :: mid ++ [d, 10]) = c :: mid ++ [d] := by
  rw [List.append_cons (c :: mid) d [10]]
  exact trimSpace_line rfl List.getLast?_concat hc1 hc2 hd1 hd2

#print axioms trimSpace_shape
#print axioms splitLF_unlines

end Lfs
