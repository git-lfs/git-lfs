import LfsModel.Api
import LfsModel.ApiReq
/-
Validation and reading back of an encoded struct, field by field: `validate` on `encodeStruct tbl vals` is a
conjunction over the rows of `tbl`, so a request is checked without first enumerating which `omitempty` fields
are present.
-/
namespace Api
variable (props : List (String × Sch)) (addl : Bool) (tbl : FieldTbl) (vals : FieldVals) (k : String)

@[simp] theorem validateAll_ofList (s : Sch) (l : List J) : validateAll s (JList.ofList l) = l.all (validate s) := by
  induction l with
  | nil => rfl
  | cons x xs ih => rw [JList.ofList, validateAll, ih, List.all_cons]

/-- what `validateKvs` asks of one member -/
def memberOk (props : List (String × Sch)) (addl : Bool) (k : String) (v : J) : Bool :=
  match lookupSch props k with
  | some s => validate s v
  | none => addl

theorem validateKvs_cons (v : J) (rest : JObj) :
    validateKvs props addl (.cons k v rest) = (memberOk props addl k v && validateKvs props addl rest) :=
  rfl

/-- a table row passes if its field is omitted or is a valid member -/
def fieldOk (props : List (String × Sch)) (addl : Bool) (vals : FieldVals) : String × String × Bool → Bool
  | (go, js, om) =>
    match lookupVal vals go with
    | some (v, empty) => (om && empty) || memberOk props addl js v
    | none => memberOk props addl ("?" ++ go) .null

/-- the value a table row is encoded to, if it is encoded under the key `k` -/
def fieldGet (vals : FieldVals) (k : String) : String × String × Bool → Option J
  | (go, js, om) =>
    match lookupVal vals go with
    | some (v, empty) => if om && empty then none else if js == k then some v else none
    | none => if "?" ++ go == k then some .null else none

theorem validateKvs_encodeFields :
    validateKvs props addl (JObj.ofList (encodeFields tbl vals)) = tbl.all (fieldOk props addl vals) := by
  induction tbl with
  | nil => rfl
  | cons row r ih =>
    obtain ⟨go, js, om⟩ := row
    rw [List.all_cons, ← ih, encodeFields, fieldOk]
    rcases lookupVal vals go with _ | ⟨v, empty⟩
    · exact validateKvs_cons ..
    · dsimp only
      cases om && empty
      · exact validateKvs_cons ..
      · rfl

theorem get?_encodeFields : (JObj.ofList (encodeFields tbl vals)).get? k = tbl.findSome? (fieldGet vals k) := by
  induction tbl with
  | nil => rfl
  | cons row r ih =>
    obtain ⟨go, js, om⟩ := row
    rw [List.findSome?_cons, ← ih, encodeFields, fieldGet]
    rcases lookupVal vals go with _ | ⟨v, empty⟩
    · rw [JObj.ofList, JObj.get?]
      cases "?" ++ go == k <;> rfl
    · dsimp only
      cases om && empty
      · rw [if_neg Bool.false_ne_true, JObj.ofList, JObj.get?]
        cases js == k <;> rfl
      · rfl

@[simp] theorem has_encodeFields :
    (JObj.ofList (encodeFields tbl vals)).has k = (tbl.findSome? (fieldGet vals k)).isSome := by
  rw [JObj.has, get?_encodeFields]

/-- the required keys are left as a `List.all` over the keys themselves: `has_encodeFields` applies once a key is named -/
@[simp] theorem validate_encodeStruct (req : List String) (items : Option Sch) (min : Option Int) :
    validate (.mk (some .object) props req items min addl) (encodeStruct tbl vals) =
      (req.all (JObj.ofList (encodeFields tbl vals)).has && tbl.all (fieldOk props addl vals)) := by
  rw [encodeStruct, validate, validateKvs_encodeFields]
  rfl

end Api

namespace ApiReq
open Api

@[simp] theorem objField_encodeStruct (tbl : FieldTbl) (vals : FieldVals) (k : String) :
    objField (encodeStruct tbl vals) k = tbl.findSome? (fieldGet vals k) :=
  get?_encodeFields tbl vals k

@[simp] theorem listOf_ofList (l : List J) : listOf (JList.ofList l) = l := by
  induction l with
  | nil => rfl
  | cons x xs ih => rw [JList.ofList, listOf, ih]

variable {avail : List String} (hb : "basic" ∈ avail)
include hb

theorem resolveAdapter_mem (name : String) : resolveAdapter avail name ∈ avail := by
  fun_cases resolveAdapter avail name <;> assumption

/-- the running adapter, if there is one, is a configured one: kept by every answer -/
theorem useAdapter_mem (cur : Option String) (hc : ∀ c, cur = some c → c ∈ avail) (name : String) :
    ∀ c, useAdapter avail cur name = some c → c ∈ avail := by
  fun_cases useAdapter avail cur name
  · exact hc
  · rintro c ⟨⟩
    exact resolveAdapter_mem hb name

theorem adapterAfter_mem (cur : Option String) (hc : ∀ c, cur = some c → c ∈ avail) (answers : List String) :
    ∀ c, adapterAfter avail cur answers = some c → c ∈ avail :=
  List.foldlRecOn (motive := fun cur => ∀ c, cur = some c → c ∈ avail) answers (useAdapter avail) hc
    fun cur hcur a _ => useAdapter_mem hb cur hcur a

end ApiReq
