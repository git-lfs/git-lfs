/-
tools/time_tools.go (TimeAtOrIn, IsExpiredAtOrIn) and tq/transfer.go (Action.IsExpiredWithin,
ActionSet.Get): when is an action that a batch response offered still usable?
Instants are integers (milliseconds on the client's clock); the zero time.Time is `none`.
Core-only, executable (Oracle `C15 expired`).
-/
namespace Expiry

structure Action where
  createdAt : Int            -- when the batch request was made (client clock)
  expiresAt : Option Int     -- `expires_at` (server clock), absent = none
  expiresInS : Int           -- `expires_in` in seconds, 0 = absent
deriving Repr

/-- TimeAtOrIn: the relative form is preferred — it does not depend on the server's clock -/
def expiration (a : Action) : Option Int :=
  if a.expiresInS = 0 then a.expiresAt else some (a.createdAt + a.expiresInS * 1000)

/-- IsExpiredAtOrIn with `until` = margin: expired when the expiration lies before now + margin -/
def expiredWithin (a : Action) (now margin : Int) : Bool :=
  match expiration a with
  | none => false
  | some e => decide (e < now + margin)

/-- ActionSet.Get hands the action out only when it is not expired within the margin -/
def usable (a : Action) (now margin : Int) : Bool := !expiredWithin a now margin

/-- `usable` reads the action through `expiration` only -/
theorem usable_iff (a : Action) (now margin : Int) :
    usable a now margin = true ↔ ∀ e, expiration a = some e → now + margin ≤ e := by
  unfold usable expiredWithin
  cases expiration a with
  | none => exact ⟨fun _ _ => nofun, fun _ => rfl⟩
  | some e => simp only [Bool.not_eq_true', decide_eq_false_iff_not, Int.not_lt, Option.some.injEq, forall_eq']

theorem usable_not_expired (a : Action) (now margin : Int) (hm : 0 ≤ margin) (h : usable a now margin = true) :
    ∀ e, expiration a = some e → now ≤ e :=
  fun e he => Int.le_trans (Int.le_add_of_nonneg_right hm) ((usable_iff ..).mp h e he)

theorem expires_in_wins (a : Action) (h : a.expiresInS ≠ 0) :
    expiration a = some (a.createdAt + a.expiresInS * 1000) := by
  simp [expiration, h]

theorem no_expiry_always_usable (createdAt now margin : Int) :
    usable ⟨createdAt, none, 0⟩ now margin = true :=
  (usable_iff ..).mpr nofun

/-- **C15.check_at_use_is_stricter** -/
theorem usable_mono (a : Action) (t0 t1 margin : Int) (hle : t0 ≤ t1) (h : usable a t1 margin = true) :
    usable a t0 margin = true :=
  (usable_iff ..).mpr fun e he => Int.le_trans (Int.add_le_add_right hle margin) ((usable_iff ..).mp h e he)

end Expiry
