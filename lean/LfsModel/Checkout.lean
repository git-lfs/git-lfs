import LfsModel.Pointer
/-
C04 — fetch / pull / checkout.
* `allows`       : filepathfilter.Filter.Allows over an abstract pattern matcher
* `willWrite`    : what singleCheckout.Run learns about the working-tree file (lfs.DecodePointerFromFile,
                   with the pointer decoder `Lfs.dec` of C07) and whether it goes on to write
* `smudgeToFile` : SmudgeToFile without download
* `run`          : singleCheckout.Run + SmudgeToFile for one path (the new bytes of the working file)
* `toFetch`      : pointersToFetch (what fetch asks the transfer queue for), with `storeSize` as its size lookup
-/
namespace Co
open Lfs

/-! ## include / exclude -/
/-- `Filter.Allows`: `m p f` = pattern `p` matches file name `f` -/
def allows {P : Type} (m : P → Bytes → Bool) (inc exc : List P) (dflt : Bool) (f : Bytes) : Bool :=
  let included := inc.any (fun p => m p f)
  if !included && !inc.isEmpty then false
  else if !included && !dflt then false
  else !(exc.any (fun p => m p f))

/-! ## one working-tree file -/
/-- state of the path in the working tree as `Run` sees it -/
inductive WFile where
  | absent (deletedInIndex : Bool)   -- no such file; whether the index records the deletion
  | unreadable                        -- exists, cannot be opened/read
  | file (b : Bytes)
  deriving Repr

abbrev Store := List (Bytes × Bytes)      -- oid ↦ content (local object storage)
def Store.get (st : Store) (o : Bytes) : Option Bytes :=
  match st with
  | [] => none
  | (k, v) :: r => if k == o then some v else Store.get r o

/-- the decision of `singleCheckout.Run`: does it go on to `RunToPath`? -/
def willWrite (recorded : Ptr) : WFile → Bool
  | .absent deleted => !deleted
  | .unreadable => false
  | .file b =>
    match dec b with                -- DecodePointerFromFile: size ≥ cut ⇒ not a pointer
    | .error _ => false             -- not a pointer / bad key / other error: leave alone
    | .ok (p, _) => p.oid == recorded.oid

/-- `SmudgeToFile` without download: object bytes when local, else the canonical pointer text as a
    placeholder.  (`ptr.Size == 0 ∧ file empty` returns early.) -/
def smudgeToFile (recorded : Ptr) (st : Store) (cur : WFile) : Bytes :=
  match cur, recorded.size with
  | .file [], 0 => []
  | _, _ =>
    match st.get recorded.oid with
    | some content => content
    | none => enc recorded

/-- the working file after `Run` (none = no file) -/
def run (recorded : Ptr) (st : Store) (cur : WFile) : Option Bytes :=
  if willWrite recorded cur then some (smudgeToFile recorded st cur)
  else match cur with
    | .file b => some b
    | _ => none

/-! ## fetch -/
/-- `pointersToFetch`: empty objects are never transferred; objects present with the right size are skipped -/
def toFetch (sizeOf : Store → Bytes → Option Nat) (st : Store) (ptrs : List Ptr) : List Ptr :=
  ptrs.filter fun p => p.size != 0 && sizeOf st p.oid != some p.size

def storeSize (st : Store) (o : Bytes) : Option Nat := (st.get o).map List.length

end Co
