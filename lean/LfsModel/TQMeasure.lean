import LfsModel.TQInv
/-
Termination and progress (C06): the measure `mu` falls with every event but `add`, and while `Wait` is
pending some such event is enabled.
-/
namespace TQ

def weight (s : State) (st : Status) (rc : Nat) : Nat :=
  if st.live then 7 * (s.maxRetries - rc) + stage st else 0

def sumW (l : List Oid) (f : Oid → Nat) : Nat := (l.map f).sum

def mu (s : State) : Nat :=
  sumW s.known (fun o => weight s (s.st o) (s.rc o))
  + (if s.waitCalled then 0 else 1) + (if s.waitReturned then 0 else 1)

theorem weight_live {s : State} {st : Status} (h : st.live = true) (rc : Nat) :
    weight s st rc = 7 * (s.maxRetries - rc) + stage st := by simp [weight, h]

theorem weight_term (s : State) (t : Term) (rc : Nat) : weight s (.term t) rc = 0 := by
  simp [weight, Status.live]

theorem stage_pos {st : Status} (h : st.live = true) : 2 ≤ stage st := by
  cases st with
  | unknown => cases h
  | term t => cases h
  | _ => decide

theorem sumW_update (l : List Oid) (hn : l.Nodup) (f g : Oid → Nat) (o : Oid) (ho : o ∈ l)
    (hfg : ∀ x, x ≠ o → g x = f x) : sumW l g + f o = sumW l f + g o := by
  -- `l` is `o` and a rest without `o`, on which `f` and `g` agree
  have split : ∀ h : Oid → Nat, sumW l h = h o + sumW (l.erase o) h :=
    fun h => ((List.perm_cons_erase ho).map h).sum_nat
  have hrest : sumW (l.erase o) g = sumW (l.erase o) f :=
    congrArg List.sum (List.map_congr_left fun x hx => hfg x fun e => hn.not_mem_erase (e ▸ hx))
  rw [split g, split f, hrest, Nat.add_right_comm, Nat.add_comm (g o), Nat.add_right_comm]

theorem sumW_le (l : List Oid) (f g : Oid → Nat) (h : ∀ x ∈ l, g x ≤ f x) : sumW l g ≤ sumW l f := by
  induction l with
  | nil => exact Nat.le_refl _
  | cons a as ih =>
    exact Nat.add_le_add (h a List.mem_cons_self) (ih fun x hx => h x (List.mem_cons_of_mem _ hx))

theorem sumW_lt (l : List Oid) (f g : Oid → Nat) (h : ∀ x ∈ l, g x ≤ f x)
    (hs : ∃ x ∈ l, g x < f x) : sumW l g < sumW l f := by
  induction l with
  | nil => obtain ⟨x, hx, _⟩ := hs; cases hx
  | cons a as ih =>
    have htl : ∀ x ∈ as, g x ≤ f x := fun x hx => h x (List.mem_cons_of_mem _ hx)
    obtain ⟨x, hx, hlt⟩ := hs
    cases hx with
    | head => exact Nat.add_lt_add_of_lt_of_le hlt (sumW_le as f g htl)
    | tail _ hm => exact Nat.add_lt_add_of_le_of_lt (h a List.mem_cons_self) (ih htl ⟨x, hm, hlt⟩)

/-- `s'` is `s` but for the status and retry count of `o`, as far as `mu` reads the state: `errors`,
`delivered` and `counter`, which the forms of `Shape` also change, do not occur in it. -/
theorem mu_update {s : State} (h : Inv s) (o : Oid) (hk : s.st o ≠ .unknown) (v : Status) (r : Nat)
    (hlt : weight s v r < weight s (s.st o) (s.rc o)) (s' : State)
    (hs' : s'.known = s.known ∧ s'.st = set s.st o v ∧ s'.rc = set s.rc o r ∧ s'.maxRetries = s.maxRetries
       ∧ s'.waitCalled = s.waitCalled ∧ s'.waitReturned = s.waitReturned) : mu s' < mu s := by
  obtain ⟨hknown, hst, hrc, hmax, hcalled, hreturned⟩ := hs'
  have hw : ∀ x, weight s' (s'.st x) (s'.rc x) = weight s (set s.st o v x) (set s.rc o r x) := fun x => by
    simp only [weight, hst, hrc, hmax]
  have := sumW_update s.known h.nodup (fun x => weight s (s.st x) (s.rc x))
    (fun x => weight s' (s'.st x) (s'.rc x)) o ((h.known_iff o).mpr hk)
    (fun x hx => by rw [hw, set_other _ _ hx, set_other _ _ hx])
  rw [hw, set_same, set_same] at this
  -- `this`: new sum + old weight of `o` = old sum + new weight of `o`
  have hsum := Nat.lt_of_add_lt_add_right (Nat.lt_of_le_of_lt (Nat.le_of_eq this) (Nat.add_lt_add_left hlt _))
  unfold mu
  rw [hknown, hcalled, hreturned]
  exact Nat.add_lt_add_right (Nat.add_lt_add_right hsum _) _

#print axioms mu_update

theorem mu_finish {s : State} (h : Inv s) (o : Oid) (hl : (s.st o).live = true) (t : Term) (s' : State)
    (hs' : s'.known = s.known ∧ s'.st = set s.st o (.term t) ∧ s'.rc = s.rc ∧ s'.maxRetries = s.maxRetries
       ∧ s'.waitCalled = s.waitCalled ∧ s'.waitReturned = s.waitReturned) : mu s' < mu s := by
  obtain ⟨hknown, hst', hrc, hrest⟩ := hs'
  apply mu_update h o (live_ne_unknown hl) (.term t) (s.rc o) _ s' ⟨hknown, hst', by rw [hrc, set_self], hrest⟩
  rw [weight_term, weight_live hl]
  exact Nat.add_pos_right _ (Nat.lt_of_lt_of_le Nat.zero_lt_two (stage_pos hl))

theorem mu_advance {s : State} (h : Inv s) (o : Oid) (hl : (s.st o).live = true) (v : Status)
    (hv : v.live = true) (hst : stage v < stage (s.st o)) (s' : State)
    (hs' : s'.known = s.known ∧ s'.st = set s.st o v ∧ s'.rc = s.rc ∧ s'.maxRetries = s.maxRetries
       ∧ s'.waitCalled = s.waitCalled ∧ s'.waitReturned = s.waitReturned) : mu s' < mu s := by
  obtain ⟨hknown, hst', hrc, hrest⟩ := hs'
  apply mu_update h o (live_ne_unknown hl) v (s.rc o) _ s' ⟨hknown, hst', by rw [hrc, set_self], hrest⟩
  rw [weight_live hv, weight_live hl]
  exact Nat.add_lt_add_left hst _

theorem mu_done_eq (s : State) : mu (done s) = mu s := by rw [done_eq]; rfl

theorem shape_mu {s s' : State} {e : Ev} (h : Inv s) (hs : Shape s e s') (hadd : ∀ o, e ≠ .add o) :
    mu s' < mu s := by
  cases hs with
  | addNew o => exact absurd rfl (hadd o)
  | addAgain o => exact absurd rfl (hadd o)
  | move o v hl hv hst => exact mu_advance h o hl v hv hst _ ⟨rfl, rfl, rfl, rfl, rfl, rfl⟩
  | finish o t n dl hl => exact mu_finish h o hl t _ ⟨rfl, rfl, rfl, rfl, rfl, rfl⟩
  | retry o hl hlt =>
    -- one unit of budget (7) outweighs the way back to `retryOut` (stage 5)
    have hm : s.maxRetries - s.rc o = s.maxRetries - (s.rc o + 1) + 1 :=
      (Nat.succ_pred_eq_of_pos (Nat.sub_pos_of_lt hlt)).symm
    have hw : weight s .retryOut (s.rc o + 1) < weight s (s.st o) (s.rc o) := by
      rw [weight_live rfl, weight_live hl, hm, Nat.mul_succ]
      exact Nat.lt_add_right _ (Nat.add_lt_add_left (by decide) _)
    exact mu_update h o (live_ne_unknown hl) .retryOut (s.rc o + 1) hw _ ⟨rfl, rfl, rfl, rfl, rfl, rfl⟩
  | batch os hne hw =>
    -- every object of the batch gets lighter, and there is one
    have key : ∀ x ∈ os, weight s .inBatch (s.rc x) < weight s (s.st x) (s.rc x) := by
      intro x hx
      rw [hw x hx, weight_live rfl, weight_live rfl]
      exact Nat.lt_succ_self _
    obtain ⟨a, ha⟩ := List.exists_mem_of_ne_nil os hne
    have := sumW_lt s.known (fun x => weight s (s.st x) (s.rc x))
      (fun x => weight s (if x ∈ os then .inBatch else s.st x) (s.rc x))
      (fun x _ => by
        split
        · next hx => exact Nat.le_of_lt (key x hx)
        · exact Nat.le_refl _)
      ⟨a, (h.known_iff a).mpr (by rw [hw a ha]; nofun), by rw [if_pos ha]; exact key a ha⟩
    exact Nat.add_lt_add_right (Nat.add_lt_add_right this _) _
  | waitCall hw =>
    unfold mu
    rw [hw]
    exact Nat.add_lt_add_right (Nat.add_lt_add_left Nat.one_pos _) _
  | waitReturn hr =>
    unfold mu
    rw [hr]
    exact Nat.add_lt_add_left Nat.one_pos _

/-- **C06.runs_terminate**, the step lemma: every event except `add` strictly decreases `mu`. -/
theorem step_mu {s s' : State} {e : Ev} (h : Inv s) (hs : step s e = some s')
    (hadd : ∀ o, e ≠ .add o) : mu s' < mu s :=
  shape_mu h (step_shape hs) hadd

theorem mu_retryOrFail {s : State} (h : Inv s) (o : Oid)
    (hst : s.st o = .inBatch ∨ s.st o = .job) : mu (retryOrFail s o) < mu s :=
  shape_mu (e := .waitCall) h (shape_retryOrFail o (by rcases hst with e | e <;> rw [e] <;> rfl)) nofun

theorem run_mu (es : List Ev) {s s' : State} (h : Inv s) (hna : ∀ e ∈ es, ∀ o, e ≠ .add o)
    (hr : run s es = some s') : es.length + mu s' ≤ mu s := by
  induction es generalizing s with
  | nil =>
    cases hr
    exact Nat.le_of_eq (Nat.zero_add _)
  | cons e es ih =>
    obtain ⟨s1, hs1, hr1⟩ := run_cons hr
    have hlt : mu s1 < mu s := step_mu h hs1 (hna e List.mem_cons_self)
    have := ih (step_inv h hs1) (fun e' he' => hna e' (List.mem_cons_of_mem _ he')) hr1
    rw [List.length_cons, Nat.add_right_comm]
    exact Nat.le_trans (Nat.succ_le_succ this) hlt

/-- **C06.runs_terminate** -/
theorem run_length_le_mu : ∀ (es : List Ev) (s s' : State), Inv s → (∀ e ∈ es, ∀ o, e ≠ .add o) →
    run s es = some s' → es.length ≤ mu s :=
  fun es _ _ h hna hr => Nat.le_trans (Nat.le_add_right _ _) (run_mu es h hna hr)

#print axioms step_mu
#print axioms run_length_le_mu

theorem status_known_or_not (s : State) (u : Status) :
    (∃ o ∈ s.known, s.st o = u) ∨ ∀ o ∈ s.known, s.st o ≠ u :=
  (Classical.exists_or_forall_not _).imp_right fun h o ho e => h o ⟨ho, e⟩

/-- **C06.no_stuck_state**: once `Wait` has been called and has not returned, some event other than
`add` is enabled — the collector, a worker, the result handler or `Wait` itself can move. -/
theorem no_stuck_state (s : State) (h : Inv s) (hw : s.waitCalled = true) (hr : s.waitReturned = false)
    (hb : 1 ≤ s.batchSize) : ∃ e, (∀ o, e ≠ .add o) ∧ (step s e).isSome = true := by
  -- The first kind of live object found has an enabled event: its guard in `step` holds.  The order
  -- matters: `batchEnd` needs no object in `inBatch` or `job`, `batchStart` none in `retryOut` either.
  rcases status_known_or_not s .incoming with ⟨o, _, ho⟩ | hI
  · exact ⟨.collTake o, nofun, Option.isSome_of_eq_some (if_pos ho)⟩
  rcases status_known_or_not s .inBatch with ⟨o, _, ho⟩ | hB
  · exact ⟨.reply o .noAction, nofun, Option.isSome_of_eq_some (if_pos ho)⟩
  rcases status_known_or_not s .job with ⟨o, _, ho⟩ | hJ
  · exact ⟨.jobResult o .ok, nofun, Option.isSome_of_eq_some (if_pos ho)⟩
  rcases status_known_or_not s .retryOut with ⟨o, _, ho⟩ | hR
  · have hnoBJ : countSt s (fun x => x == .inBatch || x == .job) = 0 :=
      (countSt_zero_iff ..).mpr fun x hx => by simp [hB x hx, hJ x hx]
    exact ⟨.batchEnd o, nofun, Option.isSome_of_eq_some (if_pos ⟨ho, hnoBJ⟩)⟩
  rcases status_known_or_not s .waiting with ⟨o, _, ho⟩ | hW
  · have hnone : countSt s (fun x => x == .inBatch || x == .job || x == .retryOut) = 0 :=
      (countSt_zero_iff ..).mpr fun x hx => by simp [hB x hx, hJ x hx, hR x hx]
    exact ⟨.batchStart [o], nofun,
      Option.isSome_of_eq_some (if_pos ⟨hb, by simp, by simp, by simpa using ho, hnone⟩)⟩
  -- nothing is live: the counter is zero (or the group was aborted), so Wait can return
  refine ⟨.waitReturn, nofun, Option.isSome_of_eq_some (if_pos ⟨hw, Bool.eq_false_iff.mp hr, ?_⟩)⟩
  cases ha : s.aborted with
  | true => exact .inr rfl
  | false =>
    refine .inl ((h.acc ha).trans (congrArg Nat.cast ((countSt_zero_iff ..).mpr fun o ho => ?_)))
    cases hst : s.st o with
    | unknown | term => rfl
    | incoming => exact absurd hst (hI o ho)
    | waiting => exact absurd hst (hW o ho)
    | inBatch => exact absurd hst (hB o ho)
    | job => exact absurd hst (hJ o ho)
    | retryOut => exact absurd hst (hR o ho)
#print axioms no_stuck_state

end TQ
