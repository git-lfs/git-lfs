/-
C12 — git/githistory/rewriter.go at the level the property speaks about: commits in topological
order, each with a flat tree (full path ↦ mode, blob id), rewritten through a blob function with the
(path, blob)-keyed entry cache and the commit cache.  Sub-tree caching is abstracted: under a blob
function that is pure in (path, blob) a cached sub-tree is the image of its leaves.
-/
namespace Rw

structure Entry where
  path : Nat
  mode : Nat
  blob : Nat
  deriving DecidableEq, Repr

def symlinkMode : Nat := 0o120000

/-- the entry cache: (path, blob) ↦ the entry it was rewritten to when first seen -/
abbrev Cache := List ((Nat × Nat) × Entry)

def Cache.get (c : Cache) (k : Nat × Nat) : Option Entry :=
  match c with
  | [] => none
  | (k', e) :: r => if k' == k then some e else Cache.get r k

/-- `rewriteTree` on one entry: not selected / symlink ⇒ copied; cache hit ⇒ the cached entry with
    the CURRENT mode (`copyEntryMode`); miss ⇒ the blob function, result cached -/
def rewriteEntry (allows : Nat → Bool) (fn : Nat → Nat → Nat) (c : Cache) (e : Entry) : Cache × Entry :=
  if !allows e.path || e.mode == symlinkMode then (c, e)
  else match c.get (e.path, e.blob) with
    | some hit => (c, { hit with mode := e.mode })
    | none =>
      let e' : Entry := { path := e.path, mode := e.mode, blob := fn e.path e.blob }
      (((e.path, e.blob), e') :: c, e')

def rewriteTree (allows : Nat → Bool) (fn : Nat → Nat → Nat) : Cache → List Entry → Cache × List Entry
  | c, [] => (c, [])
  | c, e :: es =>
    let (c1, e') := rewriteEntry allows fn c e
    let (c2, es') := rewriteTree allows fn c1 es
    (c2, e' :: es')

/-- what the rewrite should compute on one entry -/
def specEntry (allows : Nat → Bool) (fn : Nat → Nat → Nat) (e : Entry) : Entry :=
  if !allows e.path || e.mode == symlinkMode then e else { e with blob := fn e.path e.blob }

structure Commit where
  id : Nat
  parents : List Nat
  hdr : Nat            -- author, committer, dates, message, extra headers: copied as they are
  tree : List Entry
  deriving Repr

/-- the commit cache: old id ↦ new id -/
abbrev CMap := List (Nat × Nat)
def CMap.get (m : CMap) (k : Nat) : Option Nat :=
  match m with
  | [] => none
  | (k', v) :: r => if k' == k then some v else CMap.get r k

/-- a parent that is not part of the migration keeps its id (partial migration boundary) -/
def mapParent (m : CMap) (p : Nat) : Nat := (m.get p).getD p

structure St where
  cache : Cache
  cmap : CMap
  out : List Commit      -- rewritten commits, newest first

/-- `newId cm'` stands for writing the commit object (content addressing): it sees the rewritten parents, header and tree -/
def rewriteCommit (allows : Nat → Bool) (fn : Nat → Nat → Nat) (newId : Commit → Nat) (s : St) (cm : Commit) : St :=
  let (c', t') := rewriteTree allows fn s.cache cm.tree
  let cm' : Commit := { id := 0, parents := cm.parents.map (mapParent s.cmap), hdr := cm.hdr, tree := t' }
  let nid := newId cm'
  { cache := c', cmap := (cm.id, nid) :: s.cmap, out := { cm' with id := nid } :: s.out }

def rewrite (allows : Nat → Bool) (fn : Nat → Nat → Nat) (newId : Commit → Nat) (cs : List Commit) : St :=
  cs.foldl (rewriteCommit allows fn newId) { cache := [], cmap := [], out := [] }

/-! ### `migrate import --fixup`: which paths are to be converted

The decision comes from the repository's own attribute files: the lines that speak about `filter` for a
path, in the order Git reads them (the root file before nested ones, each top to bottom).  A line either
does not match the path, or it assigns a value (`filter=lfs`, `filter=other`), unsets it (`-filter`) or
leaves it unspecified (`!filter`) — the last two both mean "no filter". -/

abbrev FBytes := List UInt8

/-- (the line's pattern matches the path, what it says about `filter`: none = unset / unspecified) -/
abbrev AttrLine := Bool × Option FBytes

/-- Git's rule: the LAST matching line decides -/
def effFilter (lines : List AttrLine) : Option FBytes :=
  lines.foldl (fun acc l => if l.1 then l.2 else acc) none

def sLfsFilter : FBytes := [108, 102, 115]

/-- `--fixup` converts a raw blob exactly when the effective filter of its path is `lfs` -/
def fixupConverts (lines : List AttrLine) : Bool := effFilter lines == some sLfsFilter

theorem foldl_no_match (b : List AttrLine) (h : ∀ l ∈ b, l.1 = false) (x : Option FBytes) :
    b.foldl (fun acc l => if l.1 then l.2 else acc) x = x := by
  induction b with
  | nil => rfl
  | cons l rest ih =>
    rw [List.foldl_cons, h l List.mem_cons_self]
    exact ih fun l' hl' => h l' (List.mem_cons_of_mem _ hl')

theorem effFilter_last_wins (pre post : List AttrLine) (v : Option FBytes) (hpost : ∀ l ∈ post, l.1 = false) :
    effFilter (pre ++ (true, v) :: post) = v := by
  rw [effFilter, List.foldl_append, List.foldl_cons]
  exact foldl_no_match post hpost v

theorem rewrite_out_length (allows : Nat → Bool) (fn : Nat → Nat → Nat) (newId : Commit → Nat) (cs : List Commit) (s : St) :
    (cs.foldl (rewriteCommit allows fn newId) s).out.length = s.out.length + cs.length := by
  induction cs generalizing s with
  | nil => rfl
  | cons c cs ih =>
    rw [List.foldl_cons, ih]
    exact Nat.succ_add_eq_add_succ ..

end Rw
