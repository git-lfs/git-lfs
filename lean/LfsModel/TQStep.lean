import LfsModel.TQ
/-
What an enabled event does, stated once: the branches of `step`, and those of `retryOrFail` inside
them, come to eight forms of the new state.  The invariants of the queue are proved per form;
induction over `run` is stated once too.
-/
namespace TQ

theorem set_same (f : Oid → α) (o : Oid) (v : α) : set f o v o = v := by simp [set]
theorem set_other (f : Oid → α) {o x : Oid} (v : α) (h : x ≠ o) : set f o v x = f x := by simp [set, h]

theorem set_self (f : Oid → α) (o : Oid) : set f o (f o) = f := by
  funext x
  unfold set
  split
  · next h => rw [h]
  · rfl

theorem live_of_eq {st : Status} (h : st = .incoming ∨ st = .waiting ∨ st = .inBatch ∨ st = .job ∨ st = .retryOut) :
    st.live = true := by
  rcases h with h | h | h | h | h <;> subst h <;> rfl

theorem live_ne_unknown {st : Status} (h : st.live = true) : st ≠ .unknown := by rintro rfl; cases h
theorem live_ne_term {st : Status} (h : st.live = true) (t : Term) : st ≠ .term t := by rintro rfl; cases h

theorem done_eq (s : State) : done s = { s with counter := if s.aborted then s.counter else s.counter - 1 } := by
  unfold done
  split <;> rfl

@[simp] theorem done_st (s : State) : (done s).st = s.st := by rw [done_eq]

/-- stage weight inside one attempt cycle; a retry costs 7.  `retryOut` (5) sits above `waiting` (4) because
`batchEnd` moves an object from `retryOut` to `waiting` and has to lower the measure. -/
def stage : Status → Nat
  | .incoming => 6 | .retryOut => 5 | .waiting => 4 | .inBatch => 3 | .job => 2
  | _ => 0

/-- `Shape s e s'`: the form of the state `s'` that the enabled event `e` leads to from `s`, with
what each form lets one know about `s`.  Only the two forms of `add` depend on the event. -/
inductive Shape (s : State) : Ev → State → Prop
  | addNew (o : Oid) (hu : s.st o = .unknown) :
    Shape s (.add o) { s with known := s.known ++ [o], st := set s.st o .incoming, adds := set s.adds o 1,
                              counter := if s.aborted then s.counter else s.counter + 1 }
  | addAgain (o : Oid) (dl : List Oid) (hdl : ∀ x ∈ dl, s.st x = .term .delivered) :
    Shape s (.add o) { s with adds := set s.adds o (s.adds o + 1), delivered := s.delivered ++ dl }
  /-- a live object moves on within its attempt -/
  | move {e : Ev} (o : Oid) (v : Status) (hl : (s.st o).live = true) (hv : v.live = true)
      (hst : stage v < stage (s.st o)) :
    Shape s e { s with st := set s.st o v }
  /-- a live object ends as `t` and is counted off as `done` does; ending as `errored` is reported -/
  | finish {e : Ev} (o : Oid) (t : Term) (n : Nat) (dl : List Oid) (hl : (s.st o).live = true)
      (hdl : ∀ x ∈ dl, x = o ∧ t = .delivered) (hn : s.errors ≤ n) (herr : t = .errored → s.errors < n) :
    Shape s e { s with st := set s.st o (.term t), errors := n, delivered := s.delivered ++ dl,
                       counter := if s.aborted then s.counter else s.counter - 1 }
  /-- a live object goes back for another attempt, which is counted -/
  | retry {e : Ev} (o : Oid) (hl : (s.st o).live = true) (hlt : s.rc o < s.maxRetries) :
    Shape s e { s with rc := set s.rc o (s.rc o + 1), st := set s.st o .retryOut }
  | batch {e : Ev} (os : List Oid) (hne : os ≠ []) (hw : ∀ o ∈ os, s.st o = .waiting) :
    Shape s e { s with st := fun x => if x ∈ os then .inBatch else s.st x }
  | waitCall {e : Ev} (hw : s.waitCalled = false) : Shape s e { s with waitCalled := true }
  | waitReturn {e : Ev} (hr : s.waitReturned = false) : Shape s e { s with waitReturned := true }

theorem shape_fail {s : State} {e : Ev} (o : Oid) (hl : (s.st o).live = true) :
    Shape s e (done { s with st := set s.st o (.term .errored), errors := s.errors + 1 }) := by
  rw [done_eq]
  have := Shape.finish (e := e) o .errored (s.errors + 1) [] hl nofun (Nat.le_succ _) (fun _ => Nat.lt_succ_self _)
  rwa [List.append_nil] at this

theorem shape_retryOrFail {s : State} {e : Ev} (o : Oid) (hl : (s.st o).live = true) :
    Shape s e (retryOrFail s o) := by
  unfold retryOrFail
  split
  · next hlt => exact .retry o hl hlt
  · exact shape_fail o hl

theorem step_shape {s s' : State} {e : Ev} (hs : step s e = some s') : Shape s e s' := by
  revert hs
  -- an event that is not enabled goes with `rintro ⟨⟩`; the branches that are left, in the order of the definition:
  fun_cases step s e <;> rintro ⟨⟩
  · next o _ hu _ => exact .addNew o hu                                       -- add: a new object
  · next o _ hd => exact .addAgain o [o] (by simpa using hd)                 --      one that was delivered
  · next o _ _ _ =>                                                           --      any other
    have := Shape.addAgain (s := s) o [] nofun
    rwa [List.append_nil] at this
  · next o hi => exact .move o .waiting (hi ▸ rfl) rfl (hi ▸ by decide)       -- collTake
  · next os h => exact .batch os h.2.1 h.2.2.2.1                              -- batchStart
  · next o hb => exact .move o .job (hb ▸ rfl) rfl (hb ▸ by decide)           -- reply: action
  · next o hb =>                                                              --        noAction
    rw [done_eq]
    have := Shape.finish (e := .reply o .noAction) o .noAction s.errors [] (hb ▸ rfl) nofun (Nat.le_refl _) nofun
    rwa [List.append_nil] at this
  · next o hb => exact shape_fail o (hb ▸ rfl)                                --        error
  · next o hb => exact shape_retryOrFail o (hb ▸ rfl)                         --        expiredAction
  · next o hb => exact shape_retryOrFail o (hb ▸ rfl)                         -- batchCallFail: retriable
  · next o _ hb _ => exact shape_fail o (hb ▸ rfl)                            --                not
  · next o hj =>                                                              -- jobResult: ok
    rw [done_eq]
    exact .finish o .delivered s.errors _ (hj ▸ rfl) (fun x hx => ⟨(List.mem_replicate.mp hx).2, rfl⟩)
      (Nat.le_refl _) nofun
  · next o hj => exact shape_retryOrFail o (hj ▸ rfl)                         --            retriable
  · next o hj => exact shape_fail o (hj ▸ rfl)                                --            fatal
  · next o hj => exact shape_fail o (hj ▸ rfl)                                --            unprocessable
  · next o h => exact .move o .waiting (h.1 ▸ rfl) rfl (h.1 ▸ by decide)      -- batchEnd
  · next hw => exact .waitCall (Bool.eq_false_iff.mpr hw)                     -- waitCall
  · next h => exact .waitReturn (Bool.eq_false_iff.mpr h.2.1)                 -- waitReturn
theorem run_cons {s s' : State} {e : Ev} {es : List Ev} (h : run s (e :: es) = some s') :
    ∃ s1, step s e = some s1 ∧ run s1 es = some s' := by
  simp only [run] at h
  split at h
  · next hs => exact ⟨_, hs, h⟩
  · cases h

theorem run_induction {P : State → Prop} (hstep : ∀ {s s' : State} {e : Ev}, P s → step s e = some s' → P s')
    (es : List Ev) {s s' : State} (h : P s) (hr : run s es = some s') : P s' := by
  induction es generalizing s with
  | nil =>
    cases hr
    exact h
  | cons e es ih =>
    obtain ⟨s1, hs1, hr1⟩ := run_cons hr
    exact ih (hstep h hs1) hr1

end TQ
