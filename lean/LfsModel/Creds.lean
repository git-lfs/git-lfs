/-
creds.Creds.buffer (the bytes written to `git credential`'s stdin) and the line grammar of
the credential protocol.  Core-only.
-/
namespace Cr
abbrev Bytes := List UInt8

def capAuthtype : Bytes := [99,97,112,97,98,105,108,105,116,121,91,93,61,97,117,116,104,116,121,112,101]  -- capability[]=authtype
def capState : Bytes := [99,97,112,97,98,105,108,105,116,121,91,93,61,115,116,97,116,101]                 -- capability[]=state

def bad (protect : Bool) (v : Bytes) : Bool := v.contains 10 || (protect && v.contains 13) || v.contains 0

/-- entries in the (arbitrary) order the Go map iteration yields them; each key has a list of values -/
abbrev Creds := List (Bytes × List Bytes)

def pairs (c : Creds) : List (Bytes × Bytes) := c.flatMap (fun kv => kv.2.map (fun v => (kv.1, v)))

def line (kv : Bytes × Bytes) : Bytes := kv.1 ++ [61] ++ kv.2 ++ [10]

/-- Creds.buffer: refuse on the first offending value, otherwise two capability lines then `k=v\n` each -/
def buffer (protect : Bool) (c : Creds) : Option Bytes :=
  if (pairs c).any (fun kv => bad protect kv.2) then none
  else some (capAuthtype ++ [10] ++ capState ++ [10] ++ ((pairs c).map line).flatten)

/-! the reader's side: split at LF, then at the first `=` -/
def splitLF : Bytes → Bytes → List Bytes
  | [], cur => if cur.isEmpty then [] else [cur.reverse]
  | c :: rest, cur => if c = 10 then cur.reverse :: splitLF rest [] else splitLF rest (c :: cur)

/-- strings.Split(s, "\n"): keeps empty fields, n LFs give n+1 fields -/
def splitLFAllAux : Bytes → Bytes → List Bytes
  | [], cur => [cur.reverse]
  | c :: rest, cur => if c = 10 then cur.reverse :: splitLFAllAux rest [] else splitLFAllAux rest (c :: cur)
def splitLFAll (b : Bytes) : List Bytes := splitLFAllAux b []

def splitEq : Bytes → Option (Bytes × Bytes)
  | [] => none
  | c :: rest => if c = 61 then some ([], rest) else
      match splitEq rest with
      | some (k, v) => some (c :: k, v)
      | none => none

def parse (b : Bytes) : List (Option (Bytes × Bytes)) := (splitLF b []).map splitEq

theorem splitLF_line (l rest : Bytes) (h : (10 : UInt8) ∉ l) (cur : Bytes) :
    splitLF (l ++ 10 :: rest) cur = (cur.reverse ++ l) :: splitLF rest [] := by
  induction l generalizing cur with
  | nil => simp [splitLF]
  | cons c cs ih =>
    obtain ⟨hc, hcs⟩ := List.ne_and_not_mem_of_not_mem_cons h
    rw [List.cons_append, splitLF, if_neg (Ne.symm hc), ih hcs, List.reverse_cons, List.append_assoc]
    rfl

theorem splitLF_lines (ls : List Bytes) (h : ∀ l ∈ ls, (10 : UInt8) ∉ l) :
    splitLF ((ls.map (· ++ [10])).flatten) [] = ls := by
  induction ls with
  | nil => rfl
  | cons l ls ih =>
    obtain ⟨hl, hls⟩ := List.forall_mem_cons.mp h
    rw [List.map_cons, List.flatten_cons, List.append_assoc, List.singleton_append, splitLF_line l _ hl, ih hls]
    rfl

theorem splitEq_kv (k v : Bytes) (h : (61 : UInt8) ∉ k) : splitEq (k ++ 61 :: v) = some (k, v) := by
  induction k with
  | nil => simp [splitEq]
  | cons c cs ih =>
    obtain ⟨hc, hcs⟩ := List.ne_and_not_mem_of_not_mem_cons h
    rw [List.cons_append, splitEq, if_neg (Ne.symm hc), ih hcs]

theorem bad_iff (protect : Bool) (v : Bytes) :
    bad protect v = true ↔ v.contains 10 ∨ (protect = true ∧ v.contains 13) ∨ v.contains 0 := by
  simp only [bad, Bool.or_eq_true, Bool.and_eq_true, or_assoc]

/-- **C17.reject_iff** -/
theorem reject_iff (protect : Bool) (c : Creds) :
    buffer protect c = none ↔ ∃ kv ∈ pairs c, kv.2.contains 10 ∨ (protect = true ∧ kv.2.contains 13) ∨ kv.2.contains 0 := by
  simp only [← bad_iff, ← List.any_eq_true, buffer, ite_eq_left_iff, reduceCtorEq, imp_false, Decidable.not_not]

theorem parse_lines (kvs : List (Bytes × Bytes)) (hk : ∀ kv ∈ kvs, (61 : UInt8) ∉ kv.1 ∧ (10 : UInt8) ∉ kv.1)
    (hv : ∀ kv ∈ kvs, (10 : UInt8) ∉ kv.2) : parse (kvs.map line).flatten = kvs.map some := by
  have hl : ∀ l ∈ kvs.map (fun kv => kv.1 ++ 61 :: kv.2), (10 : UInt8) ∉ l :=
    List.forall_mem_map.mpr fun kv hm => by
      simp only [List.mem_append, List.mem_cons, not_or]
      exact ⟨(hk kv hm).2, by decide, hv kv hm⟩
  have hflat : kvs.map line = (kvs.map fun kv => kv.1 ++ 61 :: kv.2).map (· ++ [10]) := by
    rw [List.map_map]
    exact List.map_congr_left fun kv _ => congrArg (· ++ [10]) (List.append_assoc kv.1 [61] kv.2)
  rw [parse, hflat, splitLF_lines _ hl, List.map_map]
  exact List.map_congr_left fun kv hm => splitEq_kv kv.1 kv.2 (hk kv hm).1

/-- **C17.parse_buffer** -/
theorem parse_buffer (protect : Bool) (c : Creds) (out : Bytes)
    (hk : ∀ kv ∈ pairs c, (61 : UInt8) ∉ kv.1 ∧ (10 : UInt8) ∉ kv.1)
    (h : buffer protect c = some out) :
    parse out = some ([99,97,112,97,98,105,108,105,116,121,91,93], [97,117,116,104,116,121,112,101])
              :: some ([99,97,112,97,98,105,108,105,116,121,91,93], [115,116,97,116,101])
              :: (pairs c).map some := by
  obtain ⟨hany, h⟩ := Option.ite_none_left_eq_some.mp h
  cases h
  rw [← parse_lines (pairs c) hk fun kv hm hmem =>
    hany (List.any_eq_true.mpr ⟨kv, hm, (bad_iff _ _).mpr (.inl (List.contains_iff_mem.mpr hmem))⟩)]
  -- the two capability lines are constants: the reader's pass over them is computed
  rfl

#print axioms reject_iff
#print axioms parse_buffer
/-! ### The shared command helper of one `CredentialHelperContext`
`GetCredentialHelper(url)` stores on the context's single command helper the protection flag
configured for *that* URL (`credential.<url>.protectProtocol`, default `dflt`); every later `Fill`
serialises with the stored flag.  State = the stored flag. -/
inductive CtxOp where
  | get (configured : Option Bool)     -- GetCredentialHelper for a URL whose configuration says so
  | fill (c : Creds)                    -- Fill / Approve / Reject with this input

def ctxStep (dflt : Bool) (flag : Bool) : CtxOp → Bool × Option (Option Bytes)
  | .get cfg => (cfg.getD dflt, none)
  | .fill c => (flag, some (buffer flag c))

def ctxRun (dflt : Bool) : Bool → List CtxOp → List (Option Bytes)
  | _, [] => []
  | flag, op :: ops =>
    match ctxStep dflt flag op with
    | (flag', some out) => out :: ctxRun dflt flag' ops
    | (flag', none) => ctxRun dflt flag' ops

theorem ctxRun_append (dflt : Bool) (ops1 ops2 : List CtxOp) (f : Bool) :
    ∃ f', ctxRun dflt f (ops1 ++ ops2) = ctxRun dflt f ops1 ++ ctxRun dflt f' ops2 := by
  induction ops1 generalizing f with
  | nil => exact ⟨f, rfl⟩
  | cons op ops ih =>
    obtain ⟨f', h⟩ := ih (ctxStep dflt f op).1
    refine ⟨f', ?_⟩
    cases op with
    | get cfg => exact h
    | fill c => exact congrArg (_ :: ·) h

/-- **C17.protection_follows_current_url** -/
theorem fill_after_get (dflt f0 : Bool) (hist : List CtxOp) (cfg : Option Bool) (c : Creds) :
    (ctxRun dflt f0 (hist ++ [.get cfg, .fill c])).getLast? = some (buffer (cfg.getD dflt) c) := by
  obtain ⟨f', h⟩ := ctxRun_append dflt hist [.get cfg, .fill c] f0
  rw [h]
  exact List.getLast?_concat ..

end Cr
