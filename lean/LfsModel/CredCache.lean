/-
creds/creds.go: credentialCacher — the in-process credential cache that sits in front of
`git credential` in git-lfs's helper chain (C10, credential source "cache").
Keyed by (protocol, host as written incl. port, path); filled by Approve, emptied by Reject.
Core-only, executable (driven by Oracle `C10 cache`).
-/
namespace CredCache

abbrev Bytes := List UInt8

structure Key where
  proto : Bytes
  host : Bytes      -- the `host` attribute as git-lfs writes it: name[:port]
  path : Bytes
deriving DecidableEq, Repr

/-- a credential, with the key of the request it was obtained for (ghost field: the real map stores
    the whole attribute set, protocol/host/path included) -/
structure Cred where
  origin : Key
  secret : Nat
deriving DecidableEq, Repr

abbrev Cache := List (Key × Cred)

def lookup (c : Cache) (k : Key) : Option Cred :=
  match c with
  | [] => none
  | (k', v) :: rest => if k' = k then some v else lookup rest k

/-- Fill: a hit answers from the cache, a miss passes to the next helper (`none` here) -/
def fill (c : Cache) (k : Key) : Option Cred := lookup c k

/-- Approve: keeps an existing entry, otherwise stores what was approved under the key OF THE CREDENTIAL'S
    OWN attributes (credCacheKey(what)) -/
def approve (c : Cache) (v : Cred) : Cache :=
  match lookup c v.origin with
  | some _ => c
  | none => (v.origin, v) :: c

def reject (c : Cache) (k : Key) : Cache := c.filter fun e => !(e.1 = k)

inductive Op
  | fill (k : Key)
  | approve (v : Cred)
  | reject (k : Key)
deriving Repr

def step (c : Cache) : Op → Cache × Option Cred
  | .fill k => (c, fill c k)
  | .approve v => (approve c v, none)
  | .reject k => (reject c k, none)

def run (c : Cache) : List Op → Cache × List (Option Cred)
  | [] => (c, [])
  | op :: rest =>
    let (c1, o) := step c op
    let (c2, os) := run c1 rest
    (c2, o :: os)

/-- every entry sits under the key it was obtained for -/
def Inv (c : Cache) : Prop := ∀ e ∈ c, e.2.origin = e.1

theorem inv_nil : Inv [] := List.forall_mem_nil _

theorem lookup_mem {c : Cache} {k : Key} {v : Cred} (h : lookup c k = some v) : (k, v) ∈ c := by
  fun_induction lookup c k with
  | case1 => cases h
  | case2 =>
    cases h
    exact List.mem_cons_self
  | case3 _ _ _ _ ih => exact List.mem_cons_of_mem _ (ih h)

theorem step_inv (c : Cache) (op : Op) (h : Inv c) : Inv (step c op).1 := by
  cases op with
  | fill k => exact h
  | approve v =>
    show Inv (approve c v)
    fun_cases approve c v
    · exact h
    · exact List.forall_mem_cons.mpr ⟨rfl, h⟩
  | reject k => exact fun e he => h e (List.mem_filter.mp he).1

/-- **C10.cache_hit_is_for_the_asked_key** -/
theorem fill_confined {c : Cache} {k : Key} {v : Cred} (h : Inv c) (hf : fill c k = some v) : v.origin = k :=
  h (k, v) (lookup_mem hf)

theorem run_cons (c : Cache) (op : Op) (rest : List Op) :
    run c (op :: rest) = ((run (step c op).1 rest).1, (step c op).2 :: (run (step c op).1 rest).2) := rfl

theorem run_inv (ops : List Op) : ∀ c, Inv c → Inv (run c ops).1 := by
  induction ops with
  | nil => exact fun c h => h
  | cons op rest ih => exact fun c h => ih _ (step_inv c op h)

/-- **C10.cache_confined** -/
theorem run_confined (ops : List Op) : ∀ c, Inv c →
    ∀ o ∈ (run c ops).2, ∀ v, o = some v → ∃ k, v.origin = k ∧ Op.fill k ∈ ops := by
  induction ops with
  | nil => intro c _ o ho; cases ho
  | cons op rest ih =>
    intro c h o ho v hv
    rw [run_cons] at ho
    rcases List.mem_cons.mp ho with rfl | ho
    · cases op with
      | fill k => exact ⟨k, fill_confined h hv, List.mem_cons_self⟩
      | approve _ => cases hv
      | reject _ => cases hv
    · obtain ⟨k, hk, hm⟩ := ih _ (step_inv c op h) o ho v hv
      exact ⟨k, hk, List.mem_cons_of_mem _ hm⟩

theorem reject_misses (c : Cache) (k : Key) : fill (reject c k) k = none := by
  cases h : fill (reject c k) k with
  | none => rfl
  | some v =>
    -- a hit would be an entry under `k` that the filter kept
    have := (List.mem_filter.mp (lookup_mem h)).2
    simp at this

end CredCache
