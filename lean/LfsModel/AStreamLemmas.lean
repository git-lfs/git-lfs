import LfsModel.AStream
/-
io.ReadFull over a chunked `Stream`: whatever the chunking, the window is the first `n` bytes of the data and the
stream that is left holds the rest (`readFull_eq`) — all that the clean and smudge models take from the reader.
The fuel of `readFullAux` suffices because a read that does not end the loop returns at least one byte.
-/
namespace LfsA
namespace Stream

theorem norm_flatten (cs : List Bytes) : (norm cs).flatten = cs.flatten := by
  fun_induction norm cs with
  | case1 => rfl
  | case2 cs ih => exact ih
  | case3 c cs hc => rfl

theorem norm_ne_nil_head (cs : List Bytes) : ∀ c rest, norm cs = c :: rest → c ≠ [] := by
  fun_induction norm cs with
  | case1 => intro c rest h; cases h
  | case2 cs ih => exact ih
  | case3 d ds hd =>
    intro c rest h
    cases h
    exact hd

theorem norm_isEmpty_flatten (cs : List Bytes) (h : (norm cs).isEmpty = true) : cs.flatten = [] := by
  rw [← norm_flatten, List.isEmpty_iff.mp h]
  rfl

/-- all that is known of the parts of a `Read`, by the one case analysis of `read` -/
theorem of_read_eq {s : Stream} {n : Nat} {b eof s'} :
    s.read n = (b, eof, s') →
      b ++ s'.data = s.data ∧ b.length ≤ n ∧ (eof = true → s'.data = []) ∧ (0 < n → b = [] → eof = true) := by
  have hf := norm_flatten s.chunks
  -- nothing is left; the next chunk fits the buffer; it is cut
  fun_cases read s n with
  | case1 h =>
    rintro ⟨⟩
    rw [h] at hf
    exact ⟨hf, Nat.zero_le n, fun _ => rfl, fun _ _ => rfl⟩
  | case2 c cs h hle =>
    rintro ⟨⟩
    rw [h] at hf
    exact ⟨hf, hle, fun he => norm_isEmpty_flatten _ (Bool.and_eq_true_iff.mp he).1,
      fun _ hc => absurd hc (norm_ne_nil_head _ _ _ h)⟩
  | case3 c cs h hgt =>
    rintro ⟨⟩
    rw [h, ← List.take_append_drop n c, List.flatten_cons, List.append_assoc] at hf
    exact ⟨hf, List.length_take_le n c, nofun,
      fun hn hc => ((List.take_eq_nil_iff.mp hc).elim (Nat.ne_of_gt hn) (norm_ne_nil_head _ c cs h)).elim⟩

theorem read_data (s : Stream) (n : Nat) :
    (s.read n).1 ++ (s.read n).2.2.data = s.data :=
  (of_read_eq rfl).1

theorem read_len (s : Stream) (n : Nat) : (s.read n).1.length ≤ n :=
  (of_read_eq rfl).2.1

theorem read_eof_rest (s : Stream) (n : Nat) (h : (s.read n).2.1 = true) : (s.read n).2.2.data = [] :=
  (of_read_eq rfl).2.2.1 h

theorem read_empty_eof (s : Stream) (n : Nat) (hn : 0 < n) (h : (s.read n).1 = []) : (s.read n).2.1 = true :=
  (of_read_eq rfl).2.2.2 hn h

theorem readFullAux_spec : ∀ (fuel : Nat) (s : Stream) (n : Nat) (acc : Bytes), n < fuel →
    (readFullAux fuel s n acc).1 = acc ++ s.data.take n ∧
    (readFullAux fuel s n acc).2.2.data = s.data.drop n := by
  intro fuel s n acc
  fun_induction readFullAux fuel s n acc with
  | case1 s n acc => exact nofun
  | case2 fuel s acc => exact fun _ => ⟨(List.append_nil acc).symm, rfl⟩
  | case3 fuel s n acc hn b s' hr =>
    obtain ⟨hd, hl, hrest, -⟩ := of_read_eq hr
    rw [← hd, hrest rfl, List.append_nil, List.take_of_length_le hl, List.drop_of_length_le hl]
    exact fun _ => ⟨rfl, rfl⟩
  | case4 fuel s n acc hn b eof s' hr he hb =>
    -- a conforming reader does not return (0, nil): this branch of the model is never taken
    obtain ⟨-, -, -, hempty⟩ := of_read_eq hr
    exact absurd (hempty (Nat.pos_of_ne_zero hn) (List.isEmpty_iff.mp hb)) he
  | case5 fuel s n acc hn b eof s' hr he hb ih =>
    intro hlt
    obtain ⟨hd, hl, -, -⟩ := of_read_eq hr
    -- the read made progress, so the fuel suffices for the rest
    have hpos := List.length_pos_iff.mpr (mt List.isEmpty_iff.mpr hb)
    obtain ⟨h1, h2⟩ := ih (by omega)
    rw [h1, h2, ← hd, List.take_append, List.drop_append, List.take_of_length_le hl, List.drop_of_length_le hl,
      List.append_assoc]
    exact ⟨rfl, rfl⟩

theorem readFull_spec (s : Stream) (n : Nat) :
    (s.readFull n).1 = s.data.take n ∧ (s.readFull n).2.2.data = s.data.drop n :=
  readFullAux_spec _ s n [] (Nat.lt_succ_of_le (Nat.le_add_left n _))

#print axioms readFull_spec

theorem readFullAux_eof_of_empty (fuel : Nat) (s : Stream) (n : Nat) (acc : Bytes)
    (hf : 0 < fuel) (hn : 0 < n) (hd : s.data = []) : (readFullAux fuel s n acc).2.1 = true := by
  fun_cases readFullAux fuel s n acc with
  | case1 => cases hf
  | case2 => cases hn
  | case3 => rfl
  | case4 => rfl
  | case5 fuel _ _ _ _ b eof s' hr _ hb =>
    -- the read returned no bytes, as there are none
    obtain ⟨hdata, -⟩ := of_read_eq hr
    rw [hd] at hdata
    exact absurd (List.isEmpty_iff.mpr (List.append_eq_nil_iff.mp hdata).1) hb

theorem readFull_eof_of_empty (s : Stream) (n : Nat) (hn : 0 < n) (hd : s.data = []) :
    (s.readFull n).2.1 = true :=
  readFullAux_eof_of_empty _ s n [] (Nat.succ_pos _) hn hd

/-- `readFull` as its callers destructure it: the window is the first `n` bytes of the data, the rest of the
stream holds the others, and an empty stream reports EOF -/
theorem readFull_eq (s : Stream) (n : Nat) :
    ∃ eof s', s.readFull n = (s.data.take n, eof, s') ∧ s'.data = s.data.drop n ∧
      (0 < n → s.data = [] → eof = true) :=
  ⟨_, _, Prod.ext (readFull_spec s n).1 rfl, (readFull_spec s n).2, readFull_eof_of_empty s n⟩

/-! what a caller needs to know of the window `data.take n`, besides `List.take_append_drop` -/

theorem isEmpty_take {n : Nat} (hn : 0 < n) (b : Bytes) : (b.take n).isEmpty = b.isEmpty := by
  cases b with
  | nil => rw [List.take_nil]
  | cons x xs =>
    obtain ⟨n, rfl⟩ := Nat.exists_eq_add_one_of_ne_zero (Nat.ne_of_gt hn)
    rfl

/-- the test `buf.isEmpty && eof` of the callers, for a window whose emptiness implies EOF -/
theorem isEmpty_and_eof {b : Bytes} {eof : Bool} (h : b = [] → eof = true) : (b.isEmpty && eof) = b.isEmpty := by
  cases b with
  | nil => exact h rfl
  | cons x xs => rfl

end Stream
end LfsA
