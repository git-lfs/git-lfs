/-
github.com/git-lfs/pktline PktlineReader.Read over a packet list: it is a "full-or-EOF"
reader, so one Read of `cut` bytes sees the first `cut` bytes of the payload however Git packetised it.
-/
namespace Pkt
abbrev Bytes := List UInt8

/-- what is still to come on the wire: `some d` a data packet, `none` a flush packet;
the end of the list is the end of the underlying stream (ReadPacket fails) -/
abbrev Wire := List (Option Bytes)

structure Reader where
  buf : Bytes := []
  eof : Bool := false
  wire : Wire
deriving Repr

/-- the payload that is still on the wire: the data packets up to the first flush (or empty) packet -/
def payloadOf : Wire → Bytes
  | [] => []
  | none :: _ => []
  | some d :: rest => if d.isEmpty then [] else d ++ payloadOf rest

def Reader.payload (r : Reader) : Bytes := if r.eof then [] else r.buf ++ payloadOf r.wire

/-- the `for len(r.buf) == 0` loop: returns (out, sawEnd, newBuf, eofFlag, wire) — the bytes delivered, whether the
payload ended (end of stream, flush or empty packet), the kept remainder of an overfull packet, the reader's `eof`
afterwards, the wire that is left -/
def fill (n : Nat) : Bytes → Wire → Bytes × Bool × Bytes × Bool × Wire
  | out, [] => (out, true, [], false, [])
  | out, none :: rest => (out, true, [], true, rest)
  | out, some c :: rest =>
    if c.isEmpty then (out, true, [], true, rest) else
    let nn := min c.length (n - out.length)
    if (c.drop nn).isEmpty then fill n (out ++ c.take nn) rest
    else (out ++ c.take nn, false, c.drop nn, false, rest)

/-- PktlineReader.Read(p) with len(p) = n: bytes, "returned io.EOF / an error", new reader -/
def Reader.read (r : Reader) (n : Nat) : Bytes × Bool × Reader :=
  if r.eof then ([], true, r) else
  let out := r.buf.take n
  let b := r.buf.drop n
  if !b.isEmpty then (out, false, { r with buf := b }) else
  let (out', e, b', ef, w') := fill n out r.wire
  (out', e, { buf := b', eof := ef, wire := w' })

/-! Reading `k` bytes off the front of `c ++ p`: the window facts both proofs below rest on. -/
section window
variable {α : Type} {c : List α} {k : Nat}

theorem drop_isEmpty : (c.drop k).isEmpty = true ↔ c.length ≤ k := by
  rw [List.isEmpty_iff, List.drop_eq_nil_iff]

theorem take_min_length : c.take (min c.length k) = c.take k := by
  rw [Nat.min_comm, ← List.take_eq_take_min]

theorem drop_min_length : c.drop (min c.length k) = c.drop k := by
  rw [Nat.min_comm, ← List.drop_eq_drop_min]

theorem take_append_of_length_le (h : c.length ≤ k) (p : List α) :
    (c ++ p).take k = c ++ p.take (k - c.length) := by
  rw [List.take_append, List.take_of_length_le h]

theorem drop_append_of_length_le (h : c.length ≤ k) (p : List α) :
    (c ++ p).drop k = p.drop (k - c.length) := by
  rw [List.drop_append, List.drop_of_length_le h, List.nil_append]

end window

/-- Of what `fill` returns (see its definition for the components): the bytes delivered are `out` and as much of the
payload as fits; unless the reader is at its end, the kept remainder and the wire left hold the rest of the payload;
and unless the payload ended, `n` bytes were delivered. -/
theorem fill_spec (n : Nat) : ∀ (w : Wire) (out : Bytes), out.length ≤ n →
    (fill n out w).1 = out ++ (payloadOf w).take (n - out.length) ∧
    ((fill n out w).2.2.2.1 = false →
        (fill n out w).2.2.1 ++ payloadOf (fill n out w).2.2.2.2 = (payloadOf w).drop (n - out.length)) ∧
    ((fill n out w).2.1 = false → (fill n out w).1.length = n) := by
  intro w out
  fun_induction fill n out w with
  -- end of the stream, a flush packet, an empty packet: the payload is over
  | case1 out => simp [payloadOf]
  | case2 out rest => simp [payloadOf]
  | case3 out c rest hc => simp [payloadOf, hc]
  | case4 out c rest hc nn hfits ih =>
    -- the whole packet fits: both sides take the shape of the induction hypothesis for `out ++ c`
    intro hlen
    rw [drop_min_length, drop_isEmpty] at hfits
    rw [take_min_length, List.take_of_length_le hfits] at ih ⊢
    rw [payloadOf, if_neg hc, take_append_of_length_le hfits, drop_append_of_length_le hfits,
      ← List.append_assoc, ← Nat.sub_add_eq, ← List.length_append]
    exact ih (List.length_append ▸ Nat.add_le_of_le_sub' hlen hfits)
  | case5 out c rest hc nn hcut =>
    -- the packet overfills: stop, keep the remainder
    intro hlen
    rw [drop_min_length, drop_isEmpty] at hcut
    have hk := Nat.le_of_not_le hcut
    rw [take_min_length, drop_min_length, payloadOf, if_neg hc, List.take_append_of_le_length hk,
      List.drop_append_of_le_length hk]
    simp [List.length_take_of_le hk, Nat.add_sub_cancel' hlen]

/-- **C14.payload_packetisation_independent**: whatever the packetisation, one `Read(n)` delivers the first `n` bytes
of the payload, leaves exactly the rest, and reports end-of-payload unless it delivered `n` bytes. -/
theorem read_spec (r : Reader) (n : Nat) (hn : 0 < n) (he : r.eof = false) :
    (r.read n).1 = r.payload.take n ∧
    ((r.read n).2.2.eof = false → (r.read n).2.2.payload = r.payload.drop n) ∧
    ((r.read n).2.1 = false → (r.read n).1.length = n) := by
  unfold Reader.read Reader.payload
  by_cases hb : r.buf.length ≤ n
  · -- the buffer is used up: the rest is `fill`'s, started with the buffer as its output
    have hfill := fill_spec n r.wire r.buf hb
    simp only [he, drop_isEmpty.mpr hb, List.take_of_length_le hb, take_append_of_length_le hb,
      drop_append_of_length_le hb, Bool.not_true, Bool.false_eq_true, if_false]
    refine ⟨hfill.1, fun hf => ?_, hfill.2.2⟩
    simp only [hf, Bool.false_eq_true, if_false]
    exact hfill.2.1 hf
  · -- the buffer holds more than `n` bytes: the wire is not touched
    have hk := Nat.le_of_not_le hb
    simp [he, mt drop_isEmpty.mp hb, List.take_append_of_le_length hk, List.drop_append_of_le_length hk,
      List.length_take_of_le hk]

/-- 3 packets of sizes 2,1,3 read with a 4-byte buffer, then the rest -/
example : (Reader.read ⟨[], false, [some [1,2], some [3], some [4,5,6], none, some [9]]⟩ 4).1 = [1,2,3,4] := rfl
example : ((Reader.read ⟨[], false, [some [1,2], some [3], some [4,5,6], none, some [9]]⟩ 4).2.2.read 4).1 = [5,6] := rfl

#print axioms read_spec
end Pkt
