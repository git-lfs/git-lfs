/-
C13 — what `Fs.fsck` computes, field by field: when it succeeds, which ids it names, which objects it moves.
-/
import LfsModel.Fsck

namespace Fs

/-- membership in a list of `fsck`'s outcome: each is the image of a filtered list, computed only if a check is on -/
theorem mem_map_filter_if {α β} (c : Bool) (g : α → β) (p : α → Bool) (l : List α) (b : β) :
    b ∈ (if c then l.filter p else []).map g ↔ c = true ∧ ∃ a ∈ l, g a = b ∧ p a = true := by
  cases c
  · simp
  · simp only [if_true, true_and, List.mem_map, List.mem_filter, and_assoc, and_comm]

theorem norm_dryRun (f : Flags) : f.norm.dryRun = f.dryRun := by
  unfold Flags.norm
  split <;> rfl

theorem exitOk_iff (f : Flags) (refs : List Ref) (tracked : List Tracked) :
    (fsck f refs tracked).exitOk = true ↔
      (f.norm.objects = true → ∀ r ∈ refs, refOk r = true) ∧
      (f.norm.pointers = true → ∀ t ∈ tracked, trackedBad t = false) := by
  simp [fsck, fsckWith, badRefs, List.filter_eq_nil_iff]

theorem mem_reportedObjects {f : Flags} {refs : List Ref} {tracked : List Tracked} {o : Nat} :
    o ∈ (fsck f refs tracked).reportedObjects ↔
      f.norm.objects = true ∧ ∃ r ∈ refs, r.oid = o ∧ refOk r = false :=
  (mem_map_filter_if ..).trans (by simp only [Bool.not_eq_true'])

theorem mem_reportedPointers {f : Flags} {refs : List Ref} {tracked : List Tracked} {i : Nat} :
    i ∈ (fsck f refs tracked).reportedPointers ↔
      f.norm.pointers = true ∧ ∃ t ∈ tracked, trackedId t = i ∧ trackedBad t = true :=
  mem_map_filter_if ..

/-- the test for "nothing found" in `fsckWith` is redundant: then there is no corrupt object to move either -/
theorem fsckWith_moved (f : Flags) (bo : List Ref) (bp : List Tracked) :
    (fsckWith f bo bp).moved =
      if f.dryRun then [] else (bo.filter fun r => r.state == .corrupt).map (·.oid) := by
  unfold fsckWith
  cases bo
  · simp only [List.filter_nil, List.map_nil, ite_self]
  · rfl

theorem filter_corrupt_badRefs (refs : List Ref) :
    (badRefs refs).filter (fun r => r.state == .corrupt) = refs.filter fun r => r.state == .corrupt := by
  rw [badRefs, List.filter_filter]
  exact List.filter_congr fun r _ => by cases h : r.state <;> simp [refOk, h]

theorem moved_eq (f : Flags) (refs : List Ref) (tracked : List Tracked) :
    (fsck f refs tracked).moved =
      (if f.norm.objects && !f.dryRun then refs.filter fun r => r.state == .corrupt else []).map (·.oid) := by
  rw [fsck, fsckWith_moved, norm_dryRun]
  cases f.norm.objects <;> cases f.dryRun <;> simp [filter_corrupt_badRefs]

theorem mem_moved {f : Flags} {refs : List Ref} {tracked : List Tracked} {o : Nat} :
    o ∈ (fsck f refs tracked).moved ↔
      f.norm.objects = true ∧ f.dryRun = false ∧ ∃ r ∈ refs, r.oid = o ∧ r.state = .corrupt := by
  rw [moved_eq, mem_map_filter_if]
  simp [and_assoc]

end Fs
