/-
Executable model of lfs/pointer.go (DecodeFrom / decodeKV / decodeKVData / Encoded).
Core-only.  Bytes are `List UInt8`; string literals are spelled as byte lists (the `gen_*` theorems of
Props/C07 tie them to the constants the extractor regenerates into `Gen`).
-/
namespace Lfs

abbrev Bytes := List UInt8

/-! ### literals (tied to `Gen` by the `gen_*` theorems of Props/C07) -/
def kVersion : Bytes := [118, 101, 114, 115, 105, 111, 110]
def kOid : Bytes := [111, 105, 100]
def kSize : Bytes := [115, 105, 122, 101]
def sha256Colon : Bytes := [115, 104, 97, 50, 53, 54, 58]
def extDash : Bytes := [101, 120, 116, 45]
def mGitMedia : Bytes := [103, 105, 116, 45, 109, 101, 100, 105, 97]
def mHawser : Bytes := [104, 97, 119, 115, 101, 114]
def mGitLfs : Bytes := [103, 105, 116, 45, 108, 102, 115]
def latest : Bytes := [104, 116, 116, 112, 115, 58, 47, 47, 103, 105, 116, 45, 108, 102, 115, 46, 103, 105, 116, 104, 117, 98, 46, 99, 111, 109, 47, 115, 112, 101, 99, 47, 118, 49]
def aliasAlpha : Bytes := [104, 116, 116, 112, 58, 47, 47, 103, 105, 116, 45, 109, 101, 100, 105, 97, 46, 105, 111, 47, 118, 47, 50]
def aliasHawser : Bytes := [104, 116, 116, 112, 115, 58, 47, 47, 104, 97, 119, 115, 101, 114, 46, 103, 105, 116, 104, 117, 98, 46, 99, 111, 109, 47, 115, 112, 101, 99, 47, 118, 49]
def v1Aliases : List Bytes := [aliasAlpha, aliasHawser, latest]
def cut : Nat := 1024
def maxInt64 : Nat := 9223372036854775807

/-! ### data -/
structure Ext where
  name : Bytes
  prio : Nat
  oid : Bytes
deriving DecidableEq, Repr

structure Ptr where
  oid : Bytes
  size : Nat
  exts : List Ext
deriving DecidableEq, Repr

inductive Err | notPtr | badKey | other
deriving DecidableEq, Repr

/-! ### small byte predicates -/
def isDigit (c : UInt8) : Bool := 48 ≤ c && c ≤ 57
def isLowerHex (c : UInt8) : Bool := isDigit c || (97 ≤ c && c ≤ 102)
def isWord (c : UInt8) : Bool := isDigit c || (65 ≤ c && c ≤ 90) || (97 ≤ c && c ≤ 122) || c == 95
def isAsciiSpace (c : UInt8) : Bool := c == 9 || c == 10 || c == 11 || c == 12 || c == 13 || c == 32

/-! ### bytes.TrimSpace (unicode.IsSpace on UTF-8) -/
/-- UTF-8 encodings of the non-ASCII runes with `unicode.IsSpace`. -/
def uniSpaces : List Bytes :=
  [[0xC2,0x85],[0xC2,0xA0],[0xE1,0x9A,0x80],
   [0xE2,0x80,0x80],[0xE2,0x80,0x81],[0xE2,0x80,0x82],[0xE2,0x80,0x83],[0xE2,0x80,0x84],
   [0xE2,0x80,0x85],[0xE2,0x80,0x86],[0xE2,0x80,0x87],[0xE2,0x80,0x88],[0xE2,0x80,0x89],
   [0xE2,0x80,0x8A],[0xE2,0x80,0xA8],[0xE2,0x80,0xA9],[0xE2,0x80,0xAF],[0xE2,0x81,0x9F],
   [0xE3,0x80,0x80]]

/-- width of the space rune at the head of `b` (0 = none), given the table `tbl` -/
def spaceWidth (tbl : List Bytes) (b : Bytes) : Nat :=
  match b with
  | [] => 0
  | c :: _ =>
    if isAsciiSpace c then 1
    else match tbl.find? (fun e => e.isPrefixOf b) with
      | some e => e.length
      | none => 0

def trimLeftWith (tbl : List Bytes) : Nat → Bytes → Bytes
  | 0, b => b
  | fuel+1, b =>
    let w := spaceWidth tbl b
    if w = 0 then b else trimLeftWith tbl fuel (b.drop w)

def trimLeft (b : Bytes) : Bytes := trimLeftWith uniSpaces b.length b
def trimRight (b : Bytes) : Bytes :=
  (trimLeftWith (uniSpaces.map List.reverse) b.length b.reverse).reverse
def trimSpace (b : Bytes) : Bytes := trimRight (trimLeft b)

/-! ### bufio.ScanLines -/
def splitLF : Bytes → Bytes → List Bytes
  | [], cur => if cur.isEmpty then [] else [cur.reverse]
  | c :: rest, cur => if c = 10 then cur.reverse :: splitLF rest [] else splitLF rest (c :: cur)

def dropCR (l : Bytes) : Bytes := if l.getLast? = some 13 then l.dropLast else l
def scanLines (d : Bytes) : List Bytes := (splitLF d []).map dropCR

/-! ### helpers -/
def isInfixOf (pat : Bytes) : Bytes → Bool
  | [] => pat.isEmpty
  | c :: rest => pat.isPrefixOf (c :: rest) || isInfixOf pat rest

def matcher (d : Bytes) : Bool := isInfixOf mGitMedia d || isInfixOf mHawser d || isInfixOf mGitLfs d

/-- strings.SplitN(text, " ", 2) when a blank exists -/
def splitAtSpace : Bytes → Option (Bytes × Bytes)
  | [] => none
  | c :: rest => if c = 32 then some ([], rest) else
      match splitAtSpace rest with
      | some (k, v) => some (c :: k, v)
      | none => none

/-- extRE = `\Aext-\d{1}-\w+` (a prefix match) -/
def isExtKey (k : Bytes) : Bool :=
  match k with
  | 101 :: 120 :: 116 :: 45 :: d :: 45 :: w :: _ => isDigit d && isWord w
  | _ => false

/-! ### strconv.ParseInt(v, 10, 64) followed by `size < 0` rejection -/
def parseDigits : Bytes → Nat → Option Nat
  | [], acc => some acc
  | c :: rest, acc => if isDigit c then parseDigits rest (acc * 10 + (c.toNat - 48)) else none

def parseSize (v : Bytes) : Option Nat :=
  match v with
  | [] => none
  | 43 :: ds => if ds.isEmpty then none else
      (parseDigits ds 0).bind fun n => if n ≤ maxInt64 then some n else none
  | 45 :: ds => if ds.isEmpty then none else
      (parseDigits ds 0).bind fun n => if n = 0 then some 0 else none
  | ds => (parseDigits ds 0).bind fun n => if n ≤ maxInt64 then some n else none

def toDec (n : Nat) : Bytes :=
  if h : n < 10 then [UInt8.ofNat (48 + n)] else toDec (n / 10) ++ [UInt8.ofNat (48 + n % 10)]
decreasing_by omega

/-! ### parseOid -/
def isOid (o : Bytes) : Bool := o.length == 64 && o.all isLowerHex
def parseOid (v : Bytes) : Option Bytes :=
  if sha256Colon.isPrefixOf v && isOid (v.drop 7) then some (v.drop 7) else none

/-! ### decodeKVData -/
structure KV where
  line : Nat := 0
  version : Option Bytes := none
  oid : Option Bytes := none
  size : Option Bytes := none
  exts : List (Bytes × Bytes) := []      -- Go map: later assignment to the same key wins

def keyAt : Nat → Bytes
  | 0 => kVersion
  | 1 => kOid
  | _ => kSize

def setExt (k v : Bytes) : List (Bytes × Bytes) → List (Bytes × Bytes)
  | [] => [(k, v)]
  | (k', v') :: rest => if k' = k then (k, v) :: rest else (k', v') :: setExt k v rest

def stepLine (st : KV) (text : Bytes) : Except Err KV :=
  if text.isEmpty then .ok st else
  match splitAtSpace text with
  | none => .error .notPtr
  | some (k, v) =>
    if 3 ≤ st.line then .error .notPtr
    else if k ≠ keyAt st.line then
      if isExtKey k then .ok { st with exts := setExt k v st.exts }
      else .error (if st.line = 0 then .notPtr else .badKey)
    else match st.line with
      | 0 => .ok { st with line := 1, version := some v }
      | 1 => .ok { st with line := 2, oid := some v }
      | _ => .ok { st with line := 3, size := some v }

def foldLines : KV → List Bytes → Except Err KV
  | st, [] => .ok st
  | st, l :: ls => match stepLine st l with
    | .ok st' => foldLines st' ls
    | .error e => .error e

def decodeKVData (d : Bytes) : Except Err KV :=
  if matcher d then foldLines {} (scanLines d) else .error .notPtr

/-! ### extensions -/
def parseExt (kv : Bytes × Bytes) : Option Ext :=
  -- key already matched extRE: "ext-" d "-" name
  match kv.1 with
  | _ :: _ :: _ :: _ :: d :: _ :: name =>
    match parseOid kv.2 with
    | some o => some { name := name, prio := d.toNat - 48, oid := o }
    | none => none
  | _ => none

def parseExts : List (Bytes × Bytes) → Option (List Ext)
  | [] => some []
  | kv :: rest => match parseExt kv, parseExts rest with
    | some e, some es => some (e :: es)
    | _, _ => none

def prioNodup : List Ext → Bool
  | [] => true
  | e :: es => es.all (fun f => f.prio != e.prio) && prioNodup es

def insertByPrio (e : Ext) : List Ext → List Ext
  | [] => [e]
  | f :: fs => if e.prio < f.prio then e :: f :: fs else f :: insertByPrio e fs
def sortByPrio : List Ext → List Ext
  | [] => []
  | e :: es => insertByPrio e (sortByPrio es)

/-! ### decodeKV -/
def decodeKV (d : Bytes) : Except Err Ptr :=
  match decodeKVData d with
  | .error e => .error e
  | .ok kv =>
    match kv.version with
    | none => .error .notPtr
    | some ver =>
      if ver.isEmpty then .error .notPtr
      else if !(v1Aliases.contains ver) then .error .other
      else match kv.oid.bind parseOid with
        | none => .error .other
        | some oid =>
          match (kv.size.getD []) |> parseSize with
          | none => .error .other
          | some size =>
            match parseExts kv.exts with
            | none => .error .other
            | some exts =>
              if prioNodup exts then .ok { oid := oid, size := size, exts := sortByPrio exts }
              else .error .other

/-! ### Pointer.Encoded -/
def encExt (e : Ext) : Bytes :=
  extDash ++ toDec e.prio ++ [45] ++ e.name ++ [32] ++ sha256Colon ++ e.oid ++ [10]

def enc (p : Ptr) : Bytes :=
  if p.size = 0 then [] else
    kVersion ++ [32] ++ latest ++ [10] ++ (p.exts.map encExt).flatten ++
    kOid ++ [32] ++ sha256Colon ++ p.oid ++ [10] ++ kSize ++ [32] ++ toDec p.size ++ [10]

def emptyOid : Bytes :=
  [101,51,98,48,99,52,52,50,57,56,102,99,49,99,49,52,57,97,102,98,102,52,99,56,57,57,54,102,98,57,50,52,
   50,55,97,101,52,49,101,52,54,52,57,98,57,51,52,99,97,52,57,53,57,57,49,98,55,56,53,50,98,56,53,53]
def emptyPtr : Ptr := { oid := emptyOid, size := 0, exts := [] }

/-! ### DecodeFrom on the bytes of the first read, and DecodePointer on a whole byte string -/
def decodeBuf (buf : Bytes) : Except Err (Ptr × Bool) :=
  if buf.isEmpty then .ok (emptyPtr, true) else
  match decodeKV (trimSpace buf) with
  | .error e => .error e
  | .ok p => .ok (p, enc p == buf)

/-- `lfs.DecodePointer` on a whole byte string (after the D1/D16 repairs: the window is read in
full, and a stream of `cut` bytes or more is never a pointer). -/
def dec (b : Bytes) : Except Err (Ptr × Bool) :=
  if cut ≤ b.length then .error .notPtr else decodeBuf b

end Lfs
