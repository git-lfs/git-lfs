import LfsModel.TQTrace
import LfsModel.TQMeasure
import LfsModel.TQErr
/-
The wrapper preserves the accounting invariant, and whatever `vrun` accepts is a run of the wrapper
system — so every observed trace that validates inherits the theorems about reachable states.
-/
namespace TQ

theorem xstep_cases {s s' : State} {e : XEv} (hs : xstep s e = some s') :
    (∃ c, e = .core c ∧ step s c = some s') ∨ s' = { s with errors := s.errors + 1 } ∨
    s' = { s with aborted := true, errors := s.errors + 1 } := by
  cases e with
  | core c => exact .inl ⟨c, rfl, hs⟩
  | replyIgnored => cases hs; exact .inr (.inl rfl)
  | abort =>
    obtain ⟨_, hs⟩ := Option.ite_none_left_eq_some.mp hs
    cases hs
    exact .inr (.inr rfl)

theorem xrun_induction {P : State → Prop}
    (hstep : ∀ {s s' : State} {e : XEv}, P s → xstep s e = some s' → P s')
    (es : List XEv) {s s' : State} (h : P s) (hr : xrun s es = some s') : P s' := by
  induction es generalizing s with
  | nil =>
    cases hr
    exact h
  | cons e es ih =>
    simp only [xrun] at hr
    split at hr
    · next hs => exact ih (hstep h hs) hr
    · cases hr

theorem xstep_inv {s s' : State} {e : XEv} (h : Inv s) (hs : xstep s e = some s') : Inv s' := by
  rcases xstep_cases hs with ⟨c, _, hc⟩ | rfl | rfl
  · exact step_inv h hc
  · exact ⟨h.nodup, h.known_iff, h.acc, h.deliv⟩
  · exact ⟨h.nodup, h.known_iff, nofun, h.deliv⟩

theorem xrun_inv : ∀ (es : List XEv) {s s' : State}, Inv s → xrun s es = some s' → Inv s' :=
  xrun_induction xstep_inv

theorem xstep_mu {s s' : State} {e : XEv} (h : Inv s) (hs : xstep s e = some s') :
    (∀ c, e = .core c → (∀ o, c ≠ .add o) → mu s' < mu s) ∧ ((e = .replyIgnored ∨ e = .abort) → mu s' = mu s) := by
  constructor
  · rintro c rfl hna
    exact step_mu h hs hna
  · intro he
    rcases xstep_cases hs with ⟨c, rfl, _⟩ | rfl | rfl
    · rcases he with he | he <;> cases he
    · rfl
    · rfl

theorem xstep_errCover {s s' : State} {e : XEv} (h : ErrCover s) (hs : xstep s e = some s') : ErrCover s' := by
  rcases xstep_cases hs with ⟨c, _, hc⟩ | rfl | rfl
  · exact step_errCover h hc
  · exact Or.inl (Nat.succ_pos _)
  · exact Or.inl (Nat.succ_pos _)

theorem xrun_errCover : ∀ (es : List XEv) {s s' : State}, ErrCover s → xrun s es = some s' → ErrCover s' :=
  xrun_induction xstep_errCover

/-- `Sound s r`: if validating a word in `s` gave `r = .ok s'`, then `s'` is `s` (a pure check) or
one wrapper event away from it -/
def Sound (s : State) (r : Except String State) : Prop :=
  ∀ s', r = .ok s' → s' = s ∨ ∃ e, xstep s e = some s'

theorem sound_needEv {s : State} {e : Ev} {check : State → Bool} {why : String} :
    Sound s (needEv s e check why) := by
  intro s' h
  unfold needEv at h
  split at h
  · cases h
  · next hs =>
    split at h
    · cases h
      exact Or.inr ⟨.core e, hs⟩
    · cases h

theorem sound_needX {s : State} {e : XEv} {why : String} : Sound s (needX s e why) := by
  intro s' h
  unfold needX at h
  split at h
  · next hs =>
    cases h
    exact Or.inr ⟨e, hs⟩
  · cases h

theorem sound_error {s : State} {msg : String} : Sound s (.error msg) := fun _ h => by cases h

theorem sound_ok {s : State} : Sound s (.ok s) := fun _ h => by cases h; exact Or.inl rfl

theorem sound_ite {s : State} {c : Prop} [Decidable c] {a b : Except String State}
    (ha : Sound s a) (hb : Sound s b) : Sound s (if c then a else b) := by
  split
  · exact ha
  · exact hb

/-- every accepted trace word is one wrapper event or a pure check: `vstep` is a tree of
conditionals whose leaves are `needEv`, `needX`, a refusal, or the unchanged state -/
theorem vstep_sound (s : State) : ∀ w, Sound s (vstep s w)
  | .add _ | .take _ | .batch _ | .cfdrop _ | .result .. | .requeue _ | .wait | .waitret => sound_needEv
  | .replyUnknown => sound_needX (e := .replyIgnored) (why := "replyIgnored")
  | .abort => sound_needX
  | .retry .. => sound_ite sound_needEv (sound_ite (sound_ite sound_ok sound_error) sound_error)
  | .reply .. =>
    sound_ite sound_needEv (sound_ite sound_needEv (sound_ite sound_needEv
      (sound_ite sound_needEv (sound_ite sound_needX sound_error))))

/-- TRACE VALIDATION IS SOUND: a word list accepted by `vrun` is a run of the wrapper system, hence
    its end state satisfies the accounting invariant (and everything proved from it). -/
theorem vrun_sound (ws : List TW) {s s' : State} {i : Nat} (h : vrun s ws i = .ok s') :
    ∃ es, xrun s es = some s' := by
  induction ws generalizing s i with
  | nil =>
    cases h
    exact ⟨[], rfl⟩
  | cons w ws ih =>
    simp only [vrun] at h
    split at h
    · next s1 hv =>
      obtain ⟨es, hes⟩ := ih h
      rcases vstep_sound s w s1 hv with rfl | ⟨e, he⟩
      · exact ⟨es, hes⟩
      · exact ⟨e :: es, by rw [xrun, he]; exact hes⟩
    · cases h

theorem vrun_inv (ws : List TW) (s s' : State) (h0 : Inv s) (h : vrun s ws 0 = .ok s') : Inv s' := by
  obtain ⟨es, hes⟩ := vrun_sound ws h
  exact xrun_inv es h0 hes

end TQ
