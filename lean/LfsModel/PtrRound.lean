import LfsModel.PtrText
import LfsModel.PtrSound
/-
The round trip (C07): decoding the canonical encoding of a `Valid` pointer returns that pointer, reported
canonical — the decoder's fold followed line by line over the encoder's output.
-/
namespace Lfs

structure ValidExt (e : Ext) : Prop where
  prio_lt : e.prio < 10
  oid_ok : isOid e.oid = true
  name_head : ∃ w rest, e.name = w :: rest ∧ isWord w = true
  name_nosp : (32 : UInt8) ∉ e.name
  name_nolf : (10 : UInt8) ∉ e.name

structure Valid (p : Ptr) : Prop where
  oid_ok : isOid p.oid = true
  size_pos : p.size ≠ 0
  size_le : p.size ≤ maxInt64
  exts_ok : ∀ e ∈ p.exts, ValidExt e
  asc : StrictAsc p.exts
  short : (enc p).length < cut

theorem hex_toNat {c : UInt8} (h : isLowerHex c = true) : 48 ≤ c.toNat ∧ c.toNat ≤ 102 := by
  simp only [isLowerHex, Bool.or_eq_true, isDigit_iff, Bool.and_eq_true, decide_eq_true_eq,
    UInt8.le_iff_toNat_le, UInt8.toNat_ofNat, Nat.reducePow, Nat.reduceMod] at h
  omega

theorem isOid_spec {o : Bytes} (h : isOid o = true) : o.length = 64 ∧ ∀ c ∈ o, isLowerHex c = true := by
  simp only [isOid, Bool.and_eq_true, beq_iff_eq, List.all_eq_true] at h
  exact h

theorem not_mem_of_range {l : Bytes} {x : UInt8} {lo hi : Nat}
    (h : ∀ c ∈ l, lo ≤ c.toNat ∧ c.toNat ≤ hi) (hx : x.toNat < lo ∨ hi < x.toNat) : x ∉ l := by
  intro hm
  have := h x hm
  omega

/-- On a literal `l` the hypothesis is decided much faster than `x ∉ l` itself. -/
theorem not_mem_of_lt {l : Bytes} {x : UInt8} (lo : Nat) (h : ∀ c ∈ l, lo ≤ c.toNat)
    (hx : x.toNat < lo) : x ∉ l :=
  fun hm => Nat.lt_irrefl _ (Nat.lt_of_lt_of_le hx (h x hm))

theorem oid_range {o : Bytes} (h : isOid o = true) : ∀ c ∈ o, 48 ≤ c.toNat ∧ c.toNat ≤ 102 :=
  fun c hc => hex_toNat ((isOid_spec h).2 c hc)

theorem oid_last {o : Bytes} (h : isOid o = true) : ∃ ys d, o = ys ++ [d] ∧ 48 ≤ d.toNat ∧ d.toNat ≤ 102 := by
  have hne : o ≠ [] :=
    List.ne_nil_of_length_pos (Nat.lt_of_lt_of_eq (by decide) (isOid_spec h).1.symm)
  exact ⟨o.dropLast, o.getLast hne, (List.dropLast_concat_getLast hne).symm,
    oid_range h _ (List.getLast_mem hne)⟩

theorem digits_range (n : Nat) : ∀ c ∈ toDec n, 48 ≤ c.toNat ∧ c.toNat ≤ 57 :=
  fun c hc => digit_toNat (toDec_all_digits n c hc)

/-! ### pieces of decodeKVData -/
theorem splitAtSpace_key (k v : Bytes) (h : (32 : UInt8) ∉ k) : splitAtSpace (k ++ 32 :: v) = some (k, v) := by
  induction k with
  | nil => exact if_pos rfl
  | cons c cs ih =>
    rw [List.cons_append, splitAtSpace, if_neg (List.ne_of_not_mem_cons h).symm,
      ih (List.not_mem_of_not_mem_cons h)]

theorem dropCR_concat (xs : Bytes) (d : UInt8) (h : d ≠ 13) : dropCR (xs ++ [d]) = xs ++ [d] := by
  rw [dropCR, List.getLast?_concat, if_neg fun e => h (Option.some.inj e)]

theorem isPrefixOf_append (pat a b : Bytes) (h : pat.isPrefixOf a = true) : pat.isPrefixOf (a ++ b) = true :=
  List.isPrefixOf_iff_prefix.mpr ((List.isPrefixOf_iff_prefix.mp h).trans (List.prefix_append a b))

theorem isInfixOf_append (pat a b : Bytes) (h : isInfixOf pat a = true) : isInfixOf pat (a ++ b) = true := by
  induction a with
  | nil =>
    simp only [isInfixOf, List.isEmpty_iff] at h
    subst h
    cases b <;> rfl
  | cons x xs ih =>
    simp only [isInfixOf, List.cons_append, Bool.or_eq_true] at h ⊢
    exact h.imp (isPrefixOf_append pat (x :: xs) b) ih

theorem matcher_verLine (rest : Bytes) : matcher (verLine ++ rest) = true := by
  rw [matcher, isInfixOf_append mGitLfs verLine rest (by decide), Bool.or_true]

theorem stepLine_field (st : KV) {k : Bytes} (v : Bytes) (hk : (32 : UInt8) ∉ k) :
    stepLine st (k ++ [32] ++ v) =
      if 3 ≤ st.line then .error .notPtr
      else if k ≠ keyAt st.line then
        if isExtKey k then .ok { st with exts := setExt k v st.exts }
        else .error (if st.line = 0 then .notPtr else .badKey)
      else match st.line with
        | 0 => .ok { st with line := 1, version := some v }
        | 1 => .ok { st with line := 2, oid := some v }
        | _ => .ok { st with line := 3, size := some v } := by
  have hne : k ++ 32 :: v ≠ [] := List.append_ne_nil_of_right_ne_nil _ (List.cons_ne_nil _ _)
  rw [List.append_assoc, List.singleton_append, stepLine, splitAtSpace_key k v hk,
    List.isEmpty_eq_false_iff.mpr hne]
  rfl

theorem stepLine_verLine (st : KV) (hl : st.line = 0) :
    stepLine st verLine = .ok { st with line := 1, version := some latest } := by
  -- 97: every byte of the keys `version`, `oid`, `size` is a lower-case letter (≥ 97), so none is the blank (32)
  rw [verLine, stepLine_field st latest (not_mem_of_lt 97 (by decide) (by decide)), hl]
  rfl

theorem stepLine_oidLine (st : KV) (p : Ptr) (hl : st.line = 1) :
    stepLine st (oidLine p) = .ok { st with line := 2, oid := some (sha256Colon ++ p.oid) } := by
  rw [oidLine, stepLine_field st _ (not_mem_of_lt 97 (by decide) (by decide)), hl]
  rfl

theorem stepLine_sizeLine (st : KV) (p : Ptr) (hl : st.line = 2) :
    stepLine st (sizeLine p) = .ok { st with line := 3, size := some (toDec p.size) } := by
  rw [sizeLine, stepLine_field st _ (not_mem_of_lt 97 (by decide) (by decide)), hl]
  rfl

/-! ### the fold over the lines of a canonical encoding -/
def kvOf (e : Ext) : Bytes × Bytes := (extKey e, extVal e)

theorem extKey_shape {e : Ext} (h : ValidExt e) :
    ∃ w rest, e.name = w :: rest ∧ isWord w = true ∧
      extKey e = 101 :: 120 :: 116 :: 45 :: UInt8.ofNat (48 + e.prio) :: 45 :: w :: rest := by
  obtain ⟨w, rest, hn, hw⟩ := h.name_head
  refine ⟨w, rest, hn, hw, ?_⟩
  rw [extKey, toDec_small h.prio_lt, hn]
  rfl

/-- The bytes of `ext-<digit>-` are all at least `-` (45). -/
theorem extKey_not_mem {e : Ext} {x : UInt8} (hx : x.toNat < 45) (hn : x ∉ e.name) : x ∉ extKey e := by
  refine List.not_mem_append (List.not_mem_append (List.not_mem_append ?_ ?_) ?_) hn
  · exact not_mem_of_lt 45 (by decide) hx
  · exact not_mem_of_range (digits_range e.prio) (.inl (Nat.lt_trans hx (by decide)))
  · exact fun hm => ne_of_toNat_ne (Nat.ne_of_lt hx) (List.mem_singleton.mp hm)

theorem extKey_nosp {e : Ext} (h : ValidExt e) : (32 : UInt8) ∉ extKey e :=
  extKey_not_mem (by decide) h.name_nosp

theorem extKey_prio {e f : Ext} (he : ValidExt e) (hf : ValidExt f) (h : extKey e = extKey f) : e.prio = f.prio := by
  obtain ⟨_, _, _, _, h1⟩ := extKey_shape he
  obtain ⟨_, _, _, _, h2⟩ := extKey_shape hf
  rw [h1, h2] at h
  simp only [List.cons.injEq, true_and] at h
  have := congrArg UInt8.toNat h.1
  rw [ofNat_digit he.prio_lt, ofNat_digit hf.prio_lt] at this
  exact Nat.add_left_cancel this

theorem setExt_append (k v : Bytes) (l : List (Bytes × Bytes)) (h : ∀ x ∈ l, x.1 ≠ k) :
    setExt k v l = l ++ [(k, v)] := by
  induction l with
  | nil => rfl
  | cons x xs ih =>
    have ⟨hx, hxs⟩ := List.forall_mem_cons.mp h
    rw [setExt, if_neg hx, ih hxs]
    rfl

theorem stepLine_ext (st : KV) (hl : st.line = 1) {e : Ext} (he : ValidExt e) :
    stepLine st (extLine e) = .ok { st with exts := setExt (extKey e) (extVal e) st.exts } := by
  obtain ⟨w, rest, hn, hw, hk⟩ := extKey_shape he
  have hkey : extKey e ≠ keyAt 1 := by
    rw [hk]
    exact fun h => absurd (List.head_eq_of_cons_eq h) (by decide)
  have hext : isExtKey (extKey e) = true := by
    rw [hk, isExtKey, isDigit_ofNat he.prio_lt, hw]
    rfl
  rw [extLine, stepLine_field st _ (extKey_nosp he), hl, if_neg (by decide), if_pos hkey, if_pos hext]

theorem foldLines_cons_ok {st st' : KV} {l : Bytes} {ls : List Bytes} (h : stepLine st l = .ok st') :
    foldLines st (l :: ls) = foldLines st' ls := by
  rw [foldLines, h]

theorem foldLines_exts (rest : List Bytes) : ∀ (es acc : List Ext) (st : KV), st.line = 1 →
    st.exts = acc.map kvOf → (∀ e ∈ acc ++ es, ValidExt e) →
    (acc ++ es).Pairwise (fun a b => a.prio ≠ b.prio) →
    foldLines st (es.map extLine ++ rest) = foldLines { st with exts := (acc ++ es).map kvOf } rest := by
  intro es
  induction es with
  | nil =>
    intro acc st _ hx _ _
    rw [List.append_nil, ← hx]
    rfl
  | cons e es ih =>
    intro acc st hl hx hv hp
    have he : ValidExt e := hv e (List.mem_append_right _ List.mem_cons_self)
    -- the keys already stored differ from that of `e`, because the priorities do
    have hfresh : ∀ x ∈ st.exts, x.1 ≠ extKey e := by
      rw [hx]
      exact List.forall_mem_map.mpr fun f hf heq =>
        (List.pairwise_append.mp hp).2.2 f hf e List.mem_cons_self
          (extKey_prio (hv f (List.mem_append_left _ hf)) he heq)
    rw [List.map_cons, List.cons_append, foldLines_cons_ok (stepLine_ext st hl he),
      setExt_append _ _ _ hfresh]
    rw [List.append_cons acc e es] at hv hp ⊢
    exact ih (acc ++ [e]) { st with exts := st.exts ++ [(extKey e, extVal e)] } hl
      (by rw [List.map_append, ← hx]; rfl) hv hp

/-! ### scanLines leaves the lines of a canonical encoding as they are -/
theorem dropCR_oidEnd (pre : Bytes) {o : Bytes} (h : isOid o = true) : dropCR (pre ++ o) = pre ++ o := by
  obtain ⟨ys, d, rfl, hd1, _⟩ := oid_last h
  rw [← List.append_assoc]
  exact dropCR_concat _ d (ne_of_toNat_ne (Nat.ne_of_gt (Nat.lt_of_lt_of_le (by decide) hd1)))

/-- Each line of a canonical encoding has no LF and does not end in CR, so `scanLines` returns
it as it is. -/
theorem line_clean {p : Ptr} (hv : Valid p) {l : Bytes} (hl : l ∈ initLines p ++ [sizeLine p]) :
    (10 : UInt8) ∉ l ∧ dropCR l = l := by
  simp only [initLines, List.cons_append, List.mem_cons, List.mem_append, List.mem_map,
    List.not_mem_nil, or_false] at hl
  -- the version line, an extension line, the oid line, the size line; every byte of a keyword is at least a blank (32)
  rcases hl with rfl | (⟨e, he, rfl⟩ | rfl) | rfl
  · exact ⟨not_mem_of_lt 32 (by decide) (by decide), rfl⟩
  · have hve := hv.exts_ok e he
    have hpre : (10 : UInt8) ∉ extKey e ++ [32] ++ sha256Colon :=
      List.not_mem_append (List.not_mem_append (extKey_not_mem (by decide) hve.name_nolf)
        (not_mem_of_lt 32 (by decide) (by decide))) (not_mem_of_lt 32 (by decide) (by decide))
    rw [extLine, extVal, ← List.append_assoc]
    exact ⟨List.not_mem_append hpre (not_mem_of_range (oid_range hve.oid_ok) (.inl (by decide))),
      dropCR_oidEnd _ hve.oid_ok⟩
  · rw [oidLine, ← List.append_assoc]
    exact ⟨List.not_mem_append (not_mem_of_lt 32 (by decide) (by decide))
      (not_mem_of_range (oid_range hv.oid_ok) (.inl (by decide))), dropCR_oidEnd _ hv.oid_ok⟩
  · obtain ⟨ys, d, hyd, hd⟩ := toDec_last p.size
    refine ⟨List.not_mem_append (not_mem_of_lt 32 (by decide) (by decide))
      (not_mem_of_range (digits_range p.size) (.inl (by decide))), ?_⟩
    rw [sizeLine, hyd, ← List.append_assoc]
    exact dropCR_concat _ d
      (ne_of_toNat_ne (Nat.ne_of_gt (Nat.lt_of_lt_of_le (by decide) (digit_toNat hd).1)))

theorem lf_free_initLines {p : Ptr} (hv : Valid p) : ∀ l ∈ initLines p, (10 : UInt8) ∉ l :=
  fun _ hl => (line_clean hv (List.mem_append_left _ hl)).1

theorem dropCR_lines {p : Ptr} (hv : Valid p) :
    (initLines p ++ [sizeLine p]).map dropCR = initLines p ++ [sizeLine p] :=
  (List.map_congr_left fun _ hl => (line_clean hv hl).2).trans (List.map_id' _)

theorem scanLines_enc {p : Ptr} (hv : Valid p) :
    scanLines (unlines (initLines p) ++ sizeLine p) = initLines p ++ [sizeLine p] := by
  have hlf := (line_clean hv (List.mem_append_right _ (List.mem_singleton_self _))).1
  have hne : sizeLine p ≠ [] := List.append_ne_nil_of_right_ne_nil _ (toDec_ne_nil _)
  rw [scanLines, splitLF_unlines _ _ (lf_free_initLines hv) hlf hne, dropCR_lines hv]

/-! ### the field parsers on what the encoder wrote -/
theorem parseOid_enc {o : Bytes} (h : isOid o = true) : parseOid (sha256Colon ++ o) = some o := by
  have h1 : sha256Colon.isPrefixOf (sha256Colon ++ o) = true := isPrefixOf_append _ _ _ (by decide)
  have h2 : (sha256Colon ++ o).drop 7 = o := List.drop_left' rfl
  rw [parseOid, h1, h2, h]
  rfl

theorem parseExt_kvOf {e : Ext} (he : ValidExt e) : parseExt (kvOf e) = some e := by
  obtain ⟨w, rest, hn, hw, hk⟩ := extKey_shape he
  simp only [parseExt, kvOf, hk, extVal, parseOid_enc he.oid_ok, ofNat_digit he.prio_lt, ← hn,
    Nat.add_sub_cancel_left]

theorem parseExts_kvOf : ∀ {es : List Ext}, (∀ e ∈ es, ValidExt e) → parseExts (es.map kvOf) = some es := by
  intro es
  induction es with
  | nil => exact fun _ => rfl
  | cons e es ih =>
    intro h
    have ⟨he, hes⟩ := List.forall_mem_cons.mp h
    rw [List.map_cons, parseExts, parseExt_kvOf he, ih hes]

theorem strictAsc_ne {es : List Ext} (h : StrictAsc es) : es.Pairwise (fun a b => a.prio ≠ b.prio) :=
  List.Pairwise.imp (fun hlt => Nat.ne_of_lt hlt) h

theorem prioNodup_of_asc : ∀ {es : List Ext}, StrictAsc es → prioNodup es = true :=
  fun h => prioNodup_iff.mpr (strictAsc_ne h)

theorem sortByPrio_of_asc : ∀ {es : List Ext}, StrictAsc es → sortByPrio es = es := by
  intro es
  induction es with
  | nil => exact fun _ => rfl
  | cons e es ih =>
    intro h
    have ⟨he, hes⟩ := List.pairwise_cons.mp h
    rw [sortByPrio, ih hes]
    cases es with
    | nil => rfl
    | cons f fs => rw [insertByPrio, if_pos (he f List.mem_cons_self)]

/-- `unlines (initLines p) ++ sizeLine p` is `enc p` without its final LF: what `trimSpace` hands on in `dec_enc` -/
theorem decodeKVData_enc {p : Ptr} (hv : Valid p) :
    ∃ kv, decodeKVData (unlines (initLines p) ++ sizeLine p) = .ok kv ∧
      kv.version = some latest ∧ kv.oid = some (sha256Colon ++ p.oid) ∧
      kv.size = some (toDec p.size) ∧ kv.exts = p.exts.map kvOf := by
  have hm : matcher (unlines (initLines p) ++ sizeLine p) = true := by
    rw [initLines, unlines_cons, List.append_assoc, List.append_assoc]
    exact matcher_verLine _
  rw [decodeKVData, hm, if_pos rfl, scanLines_enc hv, initLines, List.cons_append, List.append_assoc,
    foldLines_cons_ok (stepLine_verLine {} rfl),
    foldLines_exts _ p.exts [] _ rfl rfl hv.exts_ok (strictAsc_ne hv.asc),
    List.singleton_append, foldLines_cons_ok (stepLine_oidLine _ p rfl),
    foldLines_cons_ok (stepLine_sizeLine _ p rfl)]
  exact ⟨_, rfl, rfl, rfl, rfl, rfl⟩

theorem decodeKV_enc {p : Ptr} (hv : Valid p) :
    decodeKV (unlines (initLines p) ++ sizeLine p) = .ok p := by
  obtain ⟨kv, hkv, h1, h2, h3, h4⟩ := decodeKVData_enc hv
  rw [decodeKV, hkv]
  simp only [h1, h2, h3, h4, Option.bind_some, parseOid_enc hv.oid_ok, Option.getD_some,
    parseSize_toDec hv.size_le, parseExts_kvOf hv.exts_ok, prioNodup_of_asc hv.asc,
    sortByPrio_of_asc hv.asc, if_true]
  -- what is left are the two checks of the version, on the literal `latest`
  rfl

/-- **C07.dec_enc** : decoding the canonical encoding of any valid pointer returns that pointer,
flagged canonical. -/
theorem dec_enc {p : Ptr} (hv : Valid p) : dec (enc p) = .ok (p, true) := by
  -- the encoding is `v … d LF` with `v` (118) the head of `version` and `d` the last digit of the size, so
  -- `trimSpace` removes the LF only
  obtain ⟨ys, d, hyd, hd⟩ := toDec_last p.size
  have hd' := digit_toNat hd
  have hlast : (unlines (initLines p) ++ sizeLine p).getLast? = some d := by
    rw [sizeLine, hyd, ← List.append_assoc, ← List.append_assoc, List.getLast?_concat]
  have htrim : trimSpace (enc p) = unlines (initLines p) ++ sizeLine p := by
    rw [enc_eq p hv.size_pos]
    exact trimSpace_line (c := 118) rfl hlast (by decide) (by decide) (by omega) (by omega)
  have hne : enc p ≠ [] := mt (enc_eq_nil_iff p).mp hv.size_pos
  rw [dec_of_short hv.short, decodeBuf_of_decodeKV hne (htrim ▸ decodeKV_enc hv), beq_self_eq_true]

/-- the empty pointer round-trips too (`enc` maps it to the empty file) -/
theorem dec_enc_empty : dec (enc emptyPtr) = .ok (emptyPtr, true) := by
  rw [(enc_eq_nil_iff emptyPtr).mpr rfl, dec_nil]

def sampleOid : Bytes := List.replicate 64 97
def samplePtr : Ptr := { oid := sampleOid, size := 12345, exts := [{ name := [102,111,111], prio := 3, oid := sampleOid }] }
/-- non-vacuity: a concrete valid pointer with one extension -/
theorem sample_valid : Valid samplePtr := by
  have hoid : isOid sampleOid = true := by decide
  refine ⟨hoid, by decide, by decide, ?_, List.pairwise_singleton _ _, ?_⟩
  · exact List.forall_mem_singleton.mpr
      ⟨by decide, hoid, ⟨102, [111, 111], rfl, by decide⟩,
        not_mem_of_lt 97 (by decide) (by decide), not_mem_of_lt 97 (by decide) (by decide)⟩
  · have h5 : toDec 12345 = [49, 50, 51, 52, 53] := by simp [toDec_step, toDec_small]
    have h3 : toDec 3 = [51] := toDec_small (by decide)
    rw [enc, if_neg (by decide)]
    simp only [samplePtr, sampleOid, encExt, h5, h3, List.map_cons, List.map_nil, List.flatten_cons,
      List.flatten_nil, List.length_append, List.length_replicate]
    decide

#print axioms dec_enc

/-- **C07.enc_injective** (uniqueness of the canonical form) is a corollary of the round trip. -/
theorem enc_injective {p q : Ptr} (hp : Valid p) (hq : Valid q) (h : enc p = enc q) : p = q := by
  have h1 := dec_enc hp
  rw [h, dec_enc hq] at h1
  cases h1
  rfl
#print axioms enc_injective

end Lfs
