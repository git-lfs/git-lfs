/-
C14 — the decision of the two smudge paths for a well-formed pointer, as far as it depends on whether the path is
to be smudged at all (commands/command_smudge.go: smudge — the one-shot filter and the filter-process request
without can-delay — and delayedSmudge — the request with can-delay=1).
`wanted` = not skipped (GIT_LFS_SKIP_SMUDGE / --skip) and allowed by lfs.fetchinclude / lfs.fetchexclude;
`local` = the object is in local storage with the pointer's size (or the pointer's size is 0).  Core-only.
-/
namespace SmudgeSkip

inductive Answer where
  | pointer     -- the pointer text, re-encoded
  | content     -- the object's bytes
  | download    -- the object is fetched, then its bytes (one-shot: inside the call; filter-process: delayed)
  deriving Repr, DecidableEq

/-- smudge(): one-shot `git lfs smudge`, and `command=smudge` without can-delay -/
def oneShot (wanted isLocal : Bool) : Answer :=
  if !wanted then .pointer else if isLocal then .content else .download

/-- delayedSmudge(): `command=smudge` with can-delay=1 -/
def delayed (wanted isLocal : Bool) : Answer :=
  if wanted then (if isLocal then .content else .download) else .pointer

/-- **C14.delayed_smudge_answers_like_one_shot** (the trial change seeded/C14-local-objects-smudged-although-skipped
    made `delayed` look at `wanted` only for objects that are NOT local) -/
theorem delayed_eq_oneShot (wanted isLocal : Bool) : delayed wanted isLocal = oneShot wanted isLocal := by
  cases wanted <;> rfl

/-- a path that is not to be smudged stays a pointer, whether or not its object happens to be local -/
theorem unwanted_stays_pointer (isLocal : Bool) : delayed false isLocal = .pointer ∧ oneShot false isLocal = .pointer :=
  ⟨rfl, rfl⟩

/-- **C14.delayed_exactly_when_wanted_and_missing** -/
theorem delayed_iff (wanted isLocal : Bool) : delayed wanted isLocal = .download ↔ (wanted = true ∧ isLocal = false) := by
  revert wanted isLocal
  decide

end SmudgeSkip
