/-
What reading a configuration source does to each field of the state: the verdict on a key of a safe-only
source, the effect of one line on the value list and on the extension table, and the same for a whole
source and a whole run.
-/
import LfsModel.Config
namespace Cfg

/-- what `decide` may answer for a key of an `OnlySafeKeys` source: it stores documented keys only and
    never registers an extension -/
def SafeVerdict (safeKeys : List Bytes) (key : Bytes) : Verdict → Prop
  | .store | .storeRemote _ => Documented safeKeys key
  | .storeExt _ => False
  | .skip | .ignore => True

theorem decide_safe (safeKeys : List Bytes) (key : Bytes) :
    SafeVerdict safeKeys key (decide safeKeys true key) := by
  unfold decide
  -- `iteInduction` is the case distinction of `split`, which is slow on this term
  refine iteInduction (fun _ => ?_) fun _ => ?_
  · rw [if_pos rfl]
    exact iteInduction (fun _ => trivial) fun _ => trivial
  refine iteInduction (fun hremote => ?_) fun _ => ?_
  · refine iteInduction (fun _ => trivial) fun hlfsurl => ?_
    simp only [true_and, not_or, Nat.not_lt, Decidable.not_not] at hlfsurl
    exact Or.inr (Or.inr ⟨hlfsurl.1, hremote.2, hlfsurl.2⟩)
  refine iteInduction (fun haccess => Or.inr (Or.inl haccess)) fun _ => ?_
  refine iteInduction (fun _ => trivial) fun hlisted => ?_
  exact Or.inl (by simpa using hlisted)

theorem stepLine_vals (safeKeys : List Bytes) (os : Bool) (st : State) (line : Bytes) :
    (stepLine safeKeys os st line).vals = st.vals ++ (stepLine safeKeys os {} line).vals := by
  unfold stepLine
  split
  · exact (List.append_nil _).symm
  · unfold stepKV
    cases decide safeKeys os (kvOf line).1 <;> simp

theorem readSource_vals (safeKeys : List Bytes) (st : State) (src : Source) :
    (readSource safeKeys st src).vals = st.vals ++ (readSource safeKeys {} src).vals := by
  refine List.foldl_rel (r := fun a b : State => a.vals = st.vals ++ b.vals) (List.append_nil _).symm ?_
  intro line _ c c' h
  rw [stepLine_vals safeKeys _ c, stepLine_vals safeKeys _ c', h, List.append_assoc]

/-- a key that a source sets has that source's last value, whatever was read before it -/
theorem get_readSource {safeKeys : List Bytes} {src : Source} {key v : Bytes} (st : State)
    (h : get (readSource safeKeys {} src) key = some v) :
    get (readSource safeKeys st src) key = some v := by
  unfold get at h ⊢
  obtain ⟨kv, hlast, hv⟩ := Option.map_eq_some_iff.mp h
  rw [readSource_vals, List.filter_append, List.getLast?_append, hlast]
  exact congrArg some hv

theorem stepLine_safe (safeKeys : List Bytes) (st : State) (line : Bytes) :
    (stepLine safeKeys true st line).exts = st.exts ∧
    ∀ kv ∈ (stepLine safeKeys true st line).vals, kv ∈ st.vals ∨ Documented safeKeys kv.1 := by
  unfold stepLine
  split
  · exact ⟨rfl, fun _ => Or.inl⟩
  · unfold stepKV
    have hsafe := decide_safe safeKeys (kvOf line).1
    generalize decide safeKeys true (kvOf line).1 = verdict at hsafe
    cases verdict with
    | skip | ignore => exact ⟨rfl, fun _ => Or.inl⟩
    | store | storeRemote =>
      refine ⟨rfl, fun kv hkv => ?_⟩
      rcases List.mem_append.mp hkv with hkv | hkv
      · exact Or.inl hkv
      · exact Or.inr (List.mem_singleton.mp hkv ▸ hsafe)
    | storeExt => exact hsafe.elim

theorem readSource_safe (safeKeys : List Bytes) (lines : List Bytes) (st : State) :
    (readSource safeKeys st ⟨lines, true⟩).exts = st.exts ∧
    ∀ kv ∈ (readSource safeKeys st ⟨lines, true⟩).vals, kv ∈ st.vals ∨ Documented safeKeys kv.1 := by
  refine List.foldlRecOn
    (motive := fun st' : State => st'.exts = st.exts ∧ ∀ kv ∈ st'.vals, kv ∈ st.vals ∨ Documented safeKeys kv.1)
    lines _ ⟨rfl, fun _ => Or.inl⟩ fun st' ⟨hexts', hvals'⟩ line _ => ?_
  obtain ⟨hexts, hvals⟩ := stepLine_safe safeKeys st' line
  exact ⟨hexts.trans hexts', fun kv hkv => (hvals kv hkv).elim (hvals' kv) Or.inr⟩

/-! ### the extension table depends on the trusted sources only -/

theorem stepLine_exts_congr {safeKeys : List Bytes} {os : Bool} {st st' : State} {line : Bytes}
    (h : st.exts = st'.exts) :
    (stepLine safeKeys os st line).exts = (stepLine safeKeys os st' line).exts := by
  unfold stepLine
  split
  · exact h
  · unfold stepKV
    cases decide safeKeys os (kvOf line).1 <;> simp [h]

theorem readSource_exts_congr {safeKeys : List Bytes} {src : Source} {st st' : State}
    (h : st.exts = st'.exts) :
    (readSource safeKeys st src).exts = (readSource safeKeys st' src).exts :=
  List.foldl_rel (r := fun a b : State => a.exts = b.exts) h fun _ _ _ _ => stepLine_exts_congr

/-- **C11.extensions_come_from_git_config** -/
theorem exts_of_trusted_sources_only (safeKeys : List Bytes) (srcs : List Source) :
    (readGitConfig safeKeys srcs).exts
      = (readGitConfig safeKeys (srcs.filter fun s => !s.onlySafe)).exts := by
  unfold readGitConfig
  rw [List.foldl_filter]
  refine List.foldl_rel (r := fun a b : State => a.exts = b.exts) rfl ?_
  intro ⟨lines, os⟩ _ c c' h
  cases os with
  | true => exact (readSource_safe safeKeys lines c).1.trans h
  | false => exact readSource_exts_congr h

end Cfg
