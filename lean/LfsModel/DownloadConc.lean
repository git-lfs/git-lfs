/-
C02, the "1..2 concurrent git-lfs processes fetching the same object" dimension — for ANY number of
processes.  Each process runs the shape of tq/basic_download.go (and tq/ssh.go, which never touches
the `.part` file): a PRIVATE temp file (tools.TempFile: O_EXCL, random suffix), an optional rename
of the shared `.part` file onto it, a hasher fed with what the process itself wrote or read back,
and finally a rename onto the shared final path (after the hash matched) or back onto `.part`.
The processes share `part` and `final`; the schedule is an arbitrary list of (pid, action).
Core-only.  `H` (SHA-256) is a parameter.
-/
namespace DlConc

abbrev Bytes := List UInt8

structure Proc where
  tmp : Option Bytes := none     -- this process's private temp file (none: not created / renamed away)
  hashed : Bytes := []           -- the bytes fed to this process's hasher so far
  loaded : Bool := false         -- the hasher has seen everything that is in the temp file
deriving DecidableEq, Repr

structure St where
  part : Option Bytes            -- lfs/incomplete/<oid>.part   (shared)
  final : Option Bytes           -- lfs/objects/aa/bb/<oid>     (shared)
  procs : Nat → Proc

inductive Act
  | create                       -- tools.TempFile: a fresh, empty, private file
  | takePart                     -- RobustRename(.part → temp); silently nothing when there is no .part
  | load                         -- io.Copy(hash, f): read the temp file back into the hasher
  | truncate                     -- Seek(0) + Truncate(0) + `hash = nil`
  | recv (b : Bytes)             -- one burst of the response body: written to the file AND hashed
  | commit                       -- hash matched: rename(temp → final)
  | abort                        -- error path: rename(temp → .part)
deriving Repr

def setProc (s : St) (p : Nat) (v : Proc) : St :=
  { s with procs := fun q => if q = p then v else s.procs q }

variable (H : Bytes → Bytes)

/-- one action of process `p`; `none` = the code never does this in that state -/
def step (oid : Bytes) (s : St) (p : Nat) : Act → Option St
  | .create => some (setProc s p { tmp := some [], hashed := [], loaded := true })
  | .takePart =>
      match (s.procs p).tmp, s.part with
      | some _, some b => some { (setProc s p { tmp := some b, hashed := [], loaded := false }) with part := none }
      | some _, none => some s
      | none, _ => none
  | .load =>
      match (s.procs p).tmp with
      | some c => some (setProc s p { tmp := some c, hashed := c, loaded := true })
      | none => none
  | .truncate =>
      match (s.procs p).tmp with
      | some _ => some (setProc s p { tmp := some [], hashed := [], loaded := true })
      | none => none
  | .recv b =>
      match (s.procs p).tmp with
      | some c => if (s.procs p).loaded then
          some (setProc s p { tmp := some (c ++ b), hashed := (s.procs p).hashed ++ b, loaded := true })
        else none
      | none => none
  | .commit =>
      match (s.procs p).tmp with
      | some c => if (s.procs p).loaded ∧ H (s.procs p).hashed = oid then
          some { (setProc s p {}) with final := some c }
        else none
      | none => none
  | .abort =>
      match (s.procs p).tmp with
      | some c => some { (setProc s p {}) with part := some c }
      | none => none

def run (oid : Bytes) : St → List (Nat × Act) → Option St
  | s, [] => some s
  | s, (p, a) :: rest => match step H oid s p a with
    | some s' => run oid s' rest
    | none => none

/-- what every process knows about its own file: once loaded, the hasher has seen exactly the file -/
def Inv (s : St) : Prop := ∀ p, (s.procs p).loaded = true → (s.procs p).tmp = some (s.procs p).hashed

/-- the final path holds what it held at the start, or bytes that hash to the oid -/
def GoodFinal (oid : Bytes) (f0 : Option Bytes) (s : St) : Prop :=
  s.final = f0 ∨ ∃ c, s.final = some c ∧ H c = oid

theorem setProc_same (s : St) (p : Nat) (v : Proc) : (setProc s p v).procs p = v := by simp [setProc]
theorem setProc_other (s : St) {p q : Nat} (v : Proc) (h : q ≠ p) : (setProc s p v).procs q = s.procs q := by
  simp [setProc, h]

theorem inv_setProc (s : St) (p : Nat) (v : Proc) (h : Inv s) (hv : v.loaded = true → v.tmp = some v.hashed) :
    Inv (setProc s p v) := by
  intro q
  by_cases e : q = p
  · rw [e, setProc_same]
    exact hv
  · rw [setProc_other s v e]
    exact h q

theorem goodFinal_trans {oid : Bytes} {f0 : Option Bytes} {s s' : St}
    (h : GoodFinal H oid f0 s) (h' : GoodFinal H oid s.final s') : GoodFinal H oid f0 s' :=
  h'.elim (fun e => by unfold GoodFinal; rw [e]; exact h) .inr

/-- The one case analysis of `step`: an action that succeeds keeps `Inv`, and writes the final path only as a
commit, with the temp file of a process whose hasher has seen exactly that file and arrived at the oid. -/
theorem step_spec (oid : Bytes) (s s' : St) (p : Nat) (a : Act) (h : Inv s) :
    step H oid s p a = some s' → Inv s' ∧ GoodFinal H oid s.final s' := by
  -- the branches of `step` that return `none` go with `rintro ⟨⟩`; the others, in the order of the definition:
  fun_cases step H oid s p a <;> rintro ⟨⟩
  · exact ⟨inv_setProc s p _ h (fun _ => rfl), .inl rfl⟩    -- create
  · exact ⟨inv_setProc s p _ h nofun, .inl rfl⟩              -- takePart
  · exact ⟨h, .inl rfl⟩                                       -- takePart without a `.part` file
  · exact ⟨inv_setProc s p _ h (fun _ => rfl), .inl rfl⟩    -- load
  · exact ⟨inv_setProc s p _ h (fun _ => rfl), .inl rfl⟩    -- truncate
  · next c hc hl =>                                           -- recv
    obtain rfl : c = (s.procs p).hashed := Option.some.inj (hc.symm.trans (h p hl))
    exact ⟨inv_setProc s p _ h (fun _ => rfl), .inl rfl⟩
  · next c hc hg =>                                           -- commit
    obtain rfl : c = (s.procs p).hashed := Option.some.inj (hc.symm.trans (h p hg.1))
    exact ⟨inv_setProc s p _ h nofun, .inr ⟨_, rfl, hg.2⟩⟩
  · exact ⟨inv_setProc s p _ h nofun, .inl rfl⟩              -- abort

theorem step_inv (oid : Bytes) (s s' : St) (p : Nat) (a : Act) (h : Inv s) (hs : step H oid s p a = some s') :
    Inv s' :=
  (step_spec H oid s s' p a h hs).1

/-- **C02.concurrent_final_good** is the second conjunct, from `init` -/
theorem run_spec (oid : Bytes) (s s' : St) (tr : List (Nat × Act)) (h : Inv s) :
    run H oid s tr = some s' → Inv s' ∧ GoodFinal H oid s.final s' := by
  fun_induction run H oid s tr
  · rintro ⟨⟩
    exact ⟨h, .inl rfl⟩
  · next s p a _ s1 hs1 ih =>
    intro hr
    obtain ⟨h1, hg1⟩ := step_spec H oid s s1 p a h hs1
    obtain ⟨h', hg'⟩ := ih h1 hr
    exact ⟨h', goodFinal_trans H hg1 hg'⟩
  · nofun

/-- **C02.concurrent_valid_stays** -/
theorem run_keeps_valid (oid : Bytes) (s s' : St) (tr : List (Nat × Act)) (h : Inv s)
    (hv : ∃ c, s.final = some c ∧ H c = oid) (hr : run H oid s tr = some s') :
    ∃ c, s'.final = some c ∧ H c = oid :=
  (run_spec H oid s s' tr h hr).2.elim (fun e => e ▸ hv) id

def init (part final : Option Bytes) : St := { part := part, final := final, procs := fun _ => {} }

theorem init_inv (part final : Option Bytes) : Inv (init part final) :=
  fun _ h => nomatch h

end DlConc
