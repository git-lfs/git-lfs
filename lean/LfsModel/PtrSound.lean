import LfsModel.Pointer
/-
Soundness of the pointer decoder (C07), for every byte string: an accepted input yields a well-formed
pointer, and the canonical flag is byte equality with the re-encoding.  Each decoding function is taken
apart once, by `fun_cases`: only its successful branch says anything, the others return an error.
-/
namespace Lfs

def StrictAsc (es : List Ext) : Prop := es.Pairwise (fun a b => a.prio < b.prio)

structure WellFormed (p : Ptr) : Prop where
  oid_ok : isOid p.oid = true
  size_le : p.size ≤ maxInt64
  exts_oid : ∀ e ∈ p.exts, isOid e.oid = true
  asc : StrictAsc p.exts

/-! ### what `dec` and `decodeBuf` return -/

theorem dec_of_long {b : Bytes} (h : cut ≤ b.length) : dec b = .error .notPtr := if_pos h

theorem dec_of_short {b : Bytes} (h : b.length < cut) : dec b = decodeBuf b :=
  if_neg (Nat.not_le.mpr h)

theorem dec_ok_short {b : Bytes} {x} (h : dec b = .ok x) : b.length < cut :=
  Nat.lt_of_not_le fun hl => nomatch (dec_of_long hl).symm.trans h

theorem dec_nil : dec [] = .ok (emptyPtr, true) := rfl

theorem enc_eq_nil_iff (p : Ptr) : enc p = [] ↔ p.size = 0 := by
  fun_cases enc p with
  | case1 h => exact iff_of_true rfl h
  | case2 h =>
    -- the encoding of a pointer of non-zero size ends in LF
    exact iff_of_false (List.append_ne_nil_of_right_ne_nil _ (List.cons_ne_nil _ _)) h

/-- What an accepted input went through.  The flag is the byte comparison in both cases: the empty
input is the encoding of `emptyPtr`. -/
theorem dec_ok {b : Bytes} {p : Ptr} {c : Bool} (h : dec b = .ok (p, c)) :
    c = (enc p == b) ∧ (b = [] ∧ p = emptyPtr ∨ decodeKV (trimSpace b) = .ok p) := by
  rw [dec_of_short (dec_ok_short h)] at h
  revert h
  -- the empty input; `decodeKV` refuses; `decodeKV` accepts
  fun_cases decodeBuf b with
  | case1 he =>
    rintro ⟨⟩
    cases List.isEmpty_iff.mp he
    exact ⟨rfl, .inl ⟨rfl, rfl⟩⟩
  | case2 => rintro ⟨⟩
  | case3 _ _ hq =>
    rintro ⟨⟩
    exact ⟨rfl, .inr hq⟩

theorem decodeBuf_of_decodeKV {b : Bytes} {p : Ptr} (hne : b ≠ [])
    (h : decodeKV (trimSpace b) = .ok p) : decodeBuf b = .ok (p, enc p == b) := by
  rw [decodeBuf, List.isEmpty_eq_false_iff.mpr hne, h]
  rfl

/-! ### what the field parsers and `decodeKV` accept -/

theorem parseOid_isOid {v o : Bytes} (h : parseOid v = some o) : isOid o = true := by
  simp only [parseOid, Option.ite_none_right_eq_some, Option.some.injEq, Bool.and_eq_true] at h
  obtain ⟨⟨-, ho⟩, rfl⟩ := h
  exact ho

/-- the two forms in which `parseSize` filters the number it has read: at most `M`, and (after a minus sign) zero -/
theorem bind_le {o : Option Nat} {M n : Nat}
    (h : (o.bind fun m => if m ≤ M then some m else none) = some n) : n ≤ M := by
  simp only [Option.bind_eq_some_iff, Option.ite_none_right_eq_some, Option.some.injEq] at h
  obtain ⟨m, -, hle, rfl⟩ := h
  exact hle

theorem bind_zero {o : Option Nat} {n : Nat}
    (h : (o.bind fun m => if m = 0 then some 0 else none) = some n) : n = 0 := by
  simp only [Option.bind_eq_some_iff, Option.ite_none_right_eq_some, Option.some.injEq] at h
  obtain ⟨m, -, -, rfl⟩ := h
  rfl

theorem parseSize_le {v : Bytes} {n : Nat} (h : parseSize v = some n) : n ≤ maxInt64 := by
  revert h
  fun_cases parseSize v
  case case3 => exact bind_le                                  -- `+` digits
  case case5 => exact fun h => bind_zero h ▸ Nat.zero_le _    -- `-` digits
  case case6 => exact bind_le                                  -- digits
  all_goals rintro ⟨⟩

theorem parseExt_oid {kv : Bytes × Bytes} {e : Ext} (h : parseExt kv = some e) : isOid e.oid = true := by
  revert h
  fun_cases parseExt kv
  case case1 o ho =>
    rintro ⟨⟩
    exact parseOid_isOid ho
  all_goals rintro ⟨⟩

theorem parseExts_oid : ∀ {kvs : List (Bytes × Bytes)} {es : List Ext},
    parseExts kvs = some es → ∀ e ∈ es, isOid e.oid = true := by
  intro kvs
  fun_induction parseExts kvs with
  | case1 =>
    rintro _ ⟨⟩
    exact List.forall_mem_nil _
  | case2 kv rest e es hr h0 ih =>
    rintro _ ⟨⟩
    exact List.forall_mem_cons.mpr ⟨parseExt_oid h0, ih hr⟩
  | case3 => rintro _ ⟨⟩

theorem mem_insertByPrio {e x : Ext} : ∀ {l : List Ext}, x ∈ insertByPrio e l ↔ x = e ∨ x ∈ l := by
  intro l
  fun_induction insertByPrio e l with
  | case1 => simp
  | case2 => exact List.mem_cons
  | case3 f fs _ ih =>
    rw [List.mem_cons, ih, List.mem_cons]
    exact or_left_comm

theorem mem_sortByPrio {x : Ext} : ∀ {l : List Ext}, x ∈ sortByPrio l ↔ x ∈ l := by
  intro l
  induction l with
  | nil => exact Iff.rfl
  | cons f fs ih => rw [sortByPrio, mem_insertByPrio, ih, List.mem_cons]

theorem insertByPrio_asc {e : Ext} : ∀ {l : List Ext}, StrictAsc l → (∀ f ∈ l, f.prio ≠ e.prio) →
    StrictAsc (insertByPrio e l) := by
  intro l
  fun_induction insertByPrio e l with
  | case1 => exact fun _ _ => List.pairwise_singleton _ _
  | case2 f fs hlt =>
    intro hs _
    have ⟨hf, _⟩ := List.pairwise_cons.mp hs
    exact List.pairwise_cons.mpr
      ⟨List.forall_mem_cons.mpr ⟨hlt, fun a ha => Nat.lt_trans hlt (hf a ha)⟩, hs⟩
  | case3 f fs hge ih =>
    intro hs hne
    have ⟨hf, hfs⟩ := List.pairwise_cons.mp hs
    have ⟨hfe, hne'⟩ := List.forall_mem_cons.mp hne
    refine List.pairwise_cons.mpr ⟨fun a ha => ?_, ih hfs hne'⟩
    rcases mem_insertByPrio.mp ha with rfl | ha
    · exact Nat.lt_of_le_of_ne (Nat.le_of_not_lt hge) hfe
    · exact hf a ha

theorem prioNodup_iff {l : List Ext} :
    prioNodup l = true ↔ l.Pairwise (fun a b => a.prio ≠ b.prio) := by
  induction l with
  | nil => exact iff_of_true rfl .nil
  | cons e es ih =>
    simp only [prioNodup, Bool.and_eq_true, List.all_eq_true, bne_iff_ne, List.pairwise_cons, ih]
    exact and_congr_left' (forall₂_congr fun _ _ => ne_comm)

theorem prioNodup_spec : ∀ {l : List Ext}, prioNodup l = true →
    l.Pairwise (fun a b => a.prio ≠ b.prio) := prioNodup_iff.mp

theorem sortByPrio_asc : ∀ {l : List Ext}, l.Pairwise (fun a b => a.prio ≠ b.prio) →
    StrictAsc (sortByPrio l) := by
  intro l
  induction l with
  | nil => exact fun _ => List.Pairwise.nil
  | cons e es ih =>
    intro h
    have ⟨he, hes⟩ := List.pairwise_cons.mp h
    exact insertByPrio_asc (ih hes) fun f hf => (he f (mem_sortByPrio.mp hf)).symm

/-- What a successful `decodeKV` went through (the version check left aside). -/
theorem decodeKV_ok {d : Bytes} {p : Ptr} (h : decodeKV d = .ok p) :
    ∃ kv oid size exts, decodeKVData d = .ok kv ∧
      kv.oid.bind parseOid = some oid ∧ parseSize (kv.size.getD []) = some size ∧
      parseExts kv.exts = some exts ∧ prioNodup exts = true ∧
      p = { oid := oid, size := size, exts := sortByPrio exts } := by
  revert h
  fun_cases decodeKV d
  -- the one branch that returns `.ok`
  case case8 kv hkv _ _ _ _ oid hoid size hsize exts hexts hnd =>
    rintro ⟨⟩
    exact ⟨kv, oid, size, exts, hkv, hoid, hsize, hexts, hnd, rfl⟩
  all_goals rintro ⟨⟩

theorem decodeKV_wellFormed {d : Bytes} {p : Ptr} (h : decodeKV d = .ok p) : WellFormed p := by
  obtain ⟨kv, oid, size, exts, -, hoid, hsize, hexts, hnd, rfl⟩ := decodeKV_ok h
  obtain ⟨v, -, hv⟩ := Option.bind_eq_some_iff.mp hoid
  exact ⟨parseOid_isOid hv, parseSize_le hsize,
    fun e he => parseExts_oid hexts e (mem_sortByPrio.mp he), sortByPrio_asc (prioNodup_spec hnd)⟩

theorem emptyPtr_wellFormed : WellFormed emptyPtr :=
  ⟨by decide, Nat.zero_le _, List.forall_mem_nil _, List.Pairwise.nil⟩

/-- **C07.dec_sound**: whatever the bytes, an accepted input yields a well-formed pointer. -/
theorem dec_sound (b : Bytes) {p : Ptr} {c : Bool} (h : dec b = .ok (p, c)) : WellFormed p := by
  rcases (dec_ok h).2 with ⟨-, rfl⟩ | hp
  · exact emptyPtr_wellFormed
  · exact decodeKV_wellFormed hp

/-- **C07.canonical_iff**: the canonical flag is exactly byte equality with the re-encoding. -/
theorem canonical_iff (b : Bytes) {p : Ptr} {c : Bool} (h : dec b = .ok (p, c)) :
    c = true ↔ enc p = b := by
  rw [(dec_ok h).1, beq_iff_eq]

#print axioms dec_sound
#print axioms canonical_iff
end Lfs
