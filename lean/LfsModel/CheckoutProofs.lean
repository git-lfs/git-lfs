import LfsModel.Checkout
import LfsModel.PtrRound
/-
What `willWrite`, `smudgeToFile`, `run` and `toFetch` compute on each form of input.
-/
namespace Co
open Lfs

variable {recorded : Ptr} {st : Store}

theorem willWrite_file_error {b : Bytes} {e : Err} (h : dec b = .error e) :
    willWrite recorded (.file b) = false := by
  simp only [willWrite, h]

theorem willWrite_file_ok {b : Bytes} {p : Ptr} {c : Bool} (h : dec b = .ok (p, c)) :
    willWrite recorded (.file b) = true ↔ p.oid = recorded.oid := by
  simp only [willWrite, h, beq_iff_eq]

/-- Outside the early return (`ptr.Size == 0` and an empty file) the file receives the object if it
    is local and the canonical pointer text if not. -/
theorem smudgeToFile_eq {cur : WFile} (h : cur = .file [] → recorded.size ≠ 0) :
    smudgeToFile recorded st cur = (st.get recorded.oid).getD (enc recorded) := by
  unfold smudgeToFile
  split
  · exact absurd ‹recorded.size = 0› (h rfl)
  · cases st.get recorded.oid <;> rfl

theorem run_of_willWrite {cur : WFile} (h : willWrite recorded cur = true) :
    run recorded st cur = some (smudgeToFile recorded st cur) :=
  if_pos h

theorem run_file_of_not_willWrite {b : Bytes} (h : ¬willWrite recorded (.file b) = true) :
    run recorded st (.file b) = some b :=
  if_neg h

theorem run_enc (hv : Valid recorded) :
    run recorded st (.file (enc recorded)) = some ((st.get recorded.oid).getD (enc recorded)) := by
  rw [run_of_willWrite ((willWrite_file_ok (dec_enc hv)).mpr rfl), smudgeToFile_eq fun _ => hv.size_pos]

theorem mem_toFetch {sizeOf : Store → Bytes → Option Nat} {ptrs : List Ptr} {p : Ptr} :
    p ∈ toFetch sizeOf st ptrs ↔ p ∈ ptrs ∧ p.size ≠ 0 ∧ sizeOf st p.oid ≠ some p.size := by
  simp only [toFetch, List.mem_filter, Bool.and_eq_true, bne_iff_ne, ne_eq]

end Co
