import LfsModel.FilterModel
import LfsModel.AStreamLemmas
import LfsModel.PtrSound
/-
The stream-level filters equal their byte-level specifications for every chunking, and what the
specifications return on each form of input.
-/
namespace Flt
open LfsA LfsA.Stream

variable {H : Bytes → Bytes} {b : Bytes} {st : Store}

theorem dec_take (b : Bytes) : Lfs.dec (b.take cut) = Lfs.dec b := by
  by_cases h : b.length < cut
  · rw [List.take_of_length_le (Nat.le_of_lt h)]
  · have hl : cut ≤ b.length := Nat.le_of_not_lt h
    rw [Lfs.dec_of_long hl, Lfs.dec_of_long (Nat.le_of_eq (List.length_take_of_le hl).symm)]

theorem ne_nil_of_dec_error {e} (h : Lfs.dec b = .error e) : b ≠ [] := by
  intro hb
  rw [hb, Lfs.dec_nil] at h
  cases h

/-- `decodeFrom` as `clean` and `smudge` destructure it, for every chunking -/
theorem decodeFrom_eq (s : Stream) :
    ∃ s', decodeFrom s = (Lfs.dec s.data, s.data.take cut, s') ∧ s'.data = s.data.drop cut := by
  obtain ⟨eof, s', hr, hrest, -⟩ := readFull_eq s cut
  exact ⟨s', by rw [decodeFrom, hr, ← dec_take], hrest⟩

/-! ### `cleanSpec` and `smudgeSpec` by the form of their input -/

/-- pointers, the empty one included (`Lfs.dec_nil`), pass -/
theorem cleanSpec_of_ok {x} (h : Lfs.dec b = .ok x) : cleanSpec H b st = (.pass b, st) := by
  cases b with
  | nil => rfl
  | cons c cs => simp only [cleanSpec, h, List.isEmpty_cons, Bool.false_eq_true, if_false]

/-- content is stored in full under its hash, unless an object of another length is in the way -/
theorem cleanSpec_of_error {e} (h : Lfs.dec b = .error e) :
    cleanSpec H b st =
      match st.get (H b) with
      | some c => (if c.length = b.length then .stored (H b) b else .mismatch, st)
      | none => (.stored (H b) b, (H b, b) :: st) := by
  rw [cleanSpec, List.isEmpty_eq_false_iff.mpr (ne_nil_of_dec_error h), if_neg Bool.false_ne_true, h]
  cases st.get (H b) with
  | none => rfl
  | some c => exact (apply_ite (·, st) ..).symm

theorem cleanSpec_fst_of_error (H : Bytes → Bytes) (st : Store) {e} (h : Lfs.dec b = .error e) :
    (cleanSpec H b st).1 = .stored (H b) b ∨ (cleanSpec H b st).1 = .mismatch := by
  rw [cleanSpec_of_error h]
  cases st.get (H b) with
  | none => exact .inl rfl
  | some c =>
    by_cases hl : c.length = b.length
    · exact .inl (if_pos hl)
    · exact .inr (if_neg hl)

theorem cleanSpec_snd (H : Bytes → Bytes) (b : Bytes) (st : Store) :
    (cleanSpec H b st).2 = st ∨ (cleanSpec H b st).2 = (H b, b) :: st := by
  cases hd : Lfs.dec b with
  | ok x => rw [cleanSpec_of_ok hd]; exact .inl rfl
  | error e =>
    rw [cleanSpec_of_error hd]
    cases st.get (H b) with
    | none => exact .inr rfl
    | some c => exact .inl rfl

namespace Store

theorem get_cons_eq_some {k v o c : Bytes} (h : get ((k, v) :: st) o = some c) :
    k = o ∧ v = c ∨ st.get o = some c := by
  rw [get] at h
  split at h
  · next hk => exact .inl ⟨hk, Option.some.inj h⟩
  · exact .inr h

end Store

theorem smudgeSpec_of_local {p f c} (h : Lfs.dec b = .ok (p, f)) (h0 : p.size ≠ 0)
    (hg : st.get p.oid = some c) (hl : c.length = p.size) : smudgeSpec b st = .bytes c false := by
  simp only [smudgeSpec, h, hg, if_neg h0, if_pos hl]

/-! ### the filters compute their specifications -/

theorem clean_eq_spec (H : Bytes → Bytes) (s : Stream) (st : Store) :
    clean H s st = cleanSpec H s.data st := by
  have hc : 0 < cut := by decide
  obtain ⟨s', hr, hrest⟩ := decodeFrom_eq s
  rw [clean, hr]
  dsimp only
  rw [hrest, List.take_append_drop, isEmpty_take hc, cleanSpec]
  -- the two sides differ in what passes, the window or the data: a window that decodes is all of the data
  cases hd : Lfs.dec s.data with
  | ok x => rw [List.take_of_length_le (Nat.le_of_lt (Lfs.dec_ok_short hd))]
  | error e => rfl

theorem smudge_eq_spec (s : Stream) (st : Store) : smudge s st = smudgeSpec s.data st := by
  obtain ⟨s', hr, hrest⟩ := decodeFrom_eq s
  rw [smudge, hr]
  dsimp only
  rw [hrest, List.take_append_drop]
  rfl

end Flt
