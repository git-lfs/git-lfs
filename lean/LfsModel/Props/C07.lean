/-
C07 — Pointer text has one canonical encoding and a strict, total decoder.
The helper lemmas live in PtrSound, PtrText and PtrRound.
-/
import LfsModel.Gen
import LfsModel.PtrRound
import LfsModel.PtrSound

namespace C07
open Lfs

/-! ### ties to the regenerated facts (lfs/pointer.go as it is in /repo now) -/
theorem gen_cutoff : Gen.blobSizeCutoff = Lfs.cut := rfl
theorem gen_latest : Gen.latest = Lfs.latest := rfl
theorem gen_aliases : Gen.v1Aliases = Lfs.v1Aliases := rfl
theorem gen_oidType : Gen.oidType ++ [58] = Lfs.sha256Colon := rfl
theorem gen_pointerKeys : Gen.pointerKeys = [Lfs.keyAt 0, Lfs.keyAt 1, Lfs.keyAt 2] := rfl
/-- the canonical version (what the encoder writes) is one the decoder accepts -/
theorem latest_is_alias : Gen.latest ∈ Gen.v1Aliases := .tail _ (.tail _ (.head _))

/-- Encoding any valid pointer and decoding it again returns the same pointer, reported canonical. -/
theorem dec_enc {p : Ptr} (hv : Valid p) : dec (enc p) = .ok (p, true) := Lfs.dec_enc hv

/-- The empty file is the (canonical) encoding of the empty pointer (interpretation I6) … -/
theorem dec_enc_empty : dec (enc emptyPtr) = .ok (emptyPtr, true) := Lfs.dec_enc_empty
/-- … and only size-0 pointers encode to it. -/
theorem enc_empty_iff (p : Ptr) : enc p = [] ↔ p.size = 0 := Lfs.enc_eq_nil_iff p

/-- Uniqueness of the canonical form: two valid pointers with the same encoding are equal. -/
theorem enc_injective {p q : Ptr} (hp : Valid p) (hq : Valid q) (h : enc p = enc q) : p = q :=
  Lfs.enc_injective hp hq h

/-- For EVERY byte string: accepted ⇒ 64 lower-case hex oid, size within int64, extension oids
    valid, priorities unique and strictly ascending.  Totality of `dec` is by construction. -/
theorem dec_sound (b : Bytes) {p : Ptr} {c : Bool} (h : dec b = .ok (p, c)) : WellFormed p :=
  Lfs.dec_sound b h

/-- Canonical is reported exactly when the bytes the decoder looked at are the encoding of what
    it decoded. -/
theorem canonical_iff (b : Bytes) {p : Ptr} {c : Bool} (h : dec b = .ok (p, c)) :
    c = true ↔ enc p = b := Lfs.canonical_iff b h

/-- A byte string of `cut` (1024) bytes or more is never a pointer. -/
theorem cutoff (b : Bytes) (h : cut ≤ b.length) : dec b = .error .notPtr := dec_of_long h

/-- Every accepted input is shorter than the window … -/
theorem accepted_short (b : Bytes) {p : Ptr} {c : Bool} (h : dec b = .ok (p, c)) : b.length < cut :=
  dec_ok_short h
/-- … and an input reported canonical IS the canonical encoding of what was decoded. -/
theorem canonical_is_enc (b : Bytes) {p : Ptr} (h : dec b = .ok (p, true)) : b = enc p :=
  ((canonical_iff b h).mp rfl).symm

/-- non-vacuity of `Valid`: a concrete pointer with an extension meets the hypotheses. -/
example : ∃ p : Ptr, Valid p ∧ p.exts ≠ [] ∧ dec (enc p) = .ok (p, true) :=
  ⟨samplePtr, sample_valid, by simp [samplePtr], Lfs.dec_enc sample_valid⟩

end C07
