/-
C16 — File locks: others' locks block pushes, write bits and cache follow the server.
-/
import LfsModel.Gen
import LfsModel.LocksProofs
import LfsModel.PostCommit

namespace C16
open Lk

/-! ### the unlock guard (third sentence of C16): without --force, unlock never releases the lock of a file that has
uncommitted changes -/

/-- without --force, unlocking a file with uncommitted changes changes nothing — neither the server's
    table nor the cache — whatever the server would answer; by path … -/
theorem unlock_guard_by_path (s : St) (p : Nat) (srv : Srv) :
    step s (.unlockPath p false true srv) = s := rfl
/-- … and by id -/
theorem unlock_guard_by_id (s : St) (i : Nat) (srv : Srv) :
    step s (.unlockId i false true srv) = s := rfl

/-- without --force nobody else's lock is ever released by this client -/
theorem unlock_without_force_keeps_theirs (s : St) (i : Nat) (m : Bool) (srv : Srv) (l : Lock)
    (hl : l ∈ s.table) (ho : l.owner ≠ me) : l ∈ (step s (.unlockId i false m srv)).table := by
  rcases doUnlockId_cases s i false m srv with h | ⟨l', _, hown, h⟩
  · simp only [step, h]
    exact hl
  · simp only [step, h]
    have hne : l ≠ l' := fun he => ho (he ▸ hown.resolve_right Bool.false_ne_true)
    exact (List.mem_erase_of_ne hne).mpr hl

/-! ### the cache follows the server (second sentence of C16): a lockable file is writable exactly when the user holds
its lock, and the cached list of own locks is what the server granted and has not released -/

/-- every lock the server holds for this user is cached -/
def OwnCached (s : St) : Prop := ∀ l ∈ s.table, l.owner = me → l ∈ s.cache

/-- `OwnCached` is kept by every operation, for every server answer, provided lock ids are unique
    in the table (the server's job) -/
theorem step_ownCached (s : St) (op : Op) (h : OwnCached s)
    (hnd : s.table.Nodup)
    (huniq : ∀ a ∈ s.table, ∀ b ∈ s.table, a.id = b.id → a = b) : OwnCached (step s op) := by
  have he := step_effect s op
  generalize step s op = s' at he ⊢
  intro x hx ho
  cases he with
  | nothing => exact h x hx ho
  | locked l _ => exact List.mem_append.mpr ((List.mem_append.mp hx).imp_left (h x · ho))
  | unlocked l hl =>
    -- what stays in the table differs from `l`, hence in its id, and so stays in the cache
    obtain ⟨hne, hx⟩ := (List.Nodup.mem_erase_iff hnd).mp hx
    exact List.mem_filter.mpr ⟨h x hx ho, by simpa using fun hid => hne (huniq x hx l hl hid)⟩
  | verified srv _ => exact hx
  | otherLocked l hl =>
    rcases List.mem_append.mp hx with hx | hx
    · exact h x hx ho
    · exact absurd (List.mem_singleton.mp hx ▸ ho) hl
  | otherUnlocked l _ => exact h x (List.mem_of_mem_erase hx) ho

/-- the cache lists only locks the server holds for this user -/
def CacheOwn (s : St) : Prop := ∀ x ∈ s.cache, x ∈ s.table ∧ x.owner = me

def isVerify : Op → Bool
  | .verify _ => true
  | _ => false

/-- … and that is kept by every operation except a lock verification (which also caches the other
    users' locks: D13, pinned by TestRefreshCache) -/
theorem step_cacheOwn (s : St) (op : Op) (h : CacheOwn s) (hv : isVerify op = false) : CacheOwn (step s op) := by
  have he := step_effect s op
  generalize step s op = s' at he ⊢
  intro x hx
  cases he with
  | nothing => exact h x hx
  | locked l ho =>
    rcases List.mem_append.mp hx with hx | hx
    · exact (h x hx).imp_left (List.mem_append_left _)
    · exact ⟨List.mem_append_right _ hx, List.mem_singleton.mp hx ▸ ho⟩
  | unlocked l _ =>
    obtain ⟨hx, hid⟩ := List.mem_filter.mp hx
    have hne : x ≠ l := fun he => by simp [he] at hid
    exact (h x hx).imp_left (List.mem_erase_of_ne hne).mpr
  | verified srv hop => cases hop ▸ hv
  | otherLocked l _ => exact (h x hx).imp_left (List.mem_append_left _)
  | otherUnlocked l ho =>
    have hne : x ≠ l := fun he => ho (he ▸ (h x hx).2)
    exact (h x hx).imp_left (List.mem_erase_of_ne hne).mpr

/-- write bits: a lockable file whose lock this user holds is made writable by every flag fix … -/
theorem holder_is_writable (s : St) (h : OwnCached s) (l : Lock) (hl : l ∈ s.table) (ho : l.owner = me) :
    writableAfterFix s.cache l.path = true :=
  writableAfterFix_iff.mpr ⟨l, h l hl ho, rfl⟩

/-- … and (as long as no verification polluted the cache) only such files are -/
theorem writable_only_if_holder (s : St) (h : CacheOwn s) (p : Nat) (hw : writableAfterFix s.cache p = true) :
    ∃ l ∈ s.table, l.path = p ∧ l.owner = me := by
  obtain ⟨l, hl, hp⟩ := writableAfterFix_iff.mp hw
  exact ⟨l, (h l hl).1, hp, (h l hl).2⟩

/-- the D13 counterexample: after a verification the cache holds another user's lock and a flag fix
    makes that user's file writable -/
theorem verify_caches_theirs :
    let s : St := { table := [⟨1, 7, 5⟩], cache := [], nextId := 2 }
    writableAfterFix (step s (.verify .ok)).cache 7 = true := by decide

/-! ### the push gate (first sentence of C16): with lock verification a push that adds or modifies a path locked by
another user is rejected, one that touches only the pusher's own locks is accepted -/

/-- with verification enabled a push that touches a path locked by another user is rejected … -/
theorem theirs_blocks_push (t : Table) (touched : List Nat) (l : Lock) (hl : l ∈ t) (ho : l.owner ≠ me)
    (ht : l.path ∈ touched) : pushRejected true t touched = true :=
  pushRejected_iff.mpr ⟨rfl, l, hl, ho, ht⟩

/-- … paths locked by the pusher (or by nobody) never block … -/
theorem ours_never_block (v : Bool) (t : Table) (touched : List Nat)
    (h : ∀ p ∈ touched, ∀ l ∈ t, l.path = p → l.owner = me) : pushRejected v t touched = false :=
  Bool.eq_false_iff.mpr fun hr =>
    have ⟨_, l, hl, ho, ht⟩ := pushRejected_iff.mp hr
    ho (h _ ht l hl rfl)
/-- … and nothing blocks without verification -/
theorem disabled_never_blocks (t : Table) (touched : List Nat) : pushRejected false t touched = false := rfl

/-- non-vacuity: lock, edit, guarded unlock, then a clean unlock -/
example : (run { table := [], cache := [], nextId := 1 } [.lock 3 .ok, .unlockPath 3 false true .ok]).table = [⟨1, 3, 0⟩] := by decide
example : (run { table := [], cache := [], nextId := 1 } [.lock 3 .ok, .unlockPath 3 false false .ok]).table = [] := by decide

/-! ### the commit hook: which files it re-examines -/

/-- every file the commit adds or modifies with respect to some parent — every file of a root commit —
    is among the files whose write bit the hook sets from the lock state -/
theorem commit_hook_sees_new_files (parents : List PostCommit.Tree) (t : PostCommit.Tree) (p b : Nat) (h : (p, b) ∈ t)
    (hdiff : parents = [] ∨ ∃ par ∈ parents, PostCommit.lookup par p ≠ some b) : p ∈ PostCommit.changed parents t := by
  rcases hdiff with rfl | ⟨par, hpar, hne⟩
  · exact PostCommit.mem_diffPaths.mpr (Or.inl ⟨b, h, nofun⟩)
  · rw [PostCommit.mem_changed (List.ne_nil_of_mem hpar)]
    exact ⟨par, hpar, PostCommit.mem_diffPaths.mpr (Or.inl ⟨b, h, hne⟩)⟩

/-- … and only files that differ from a parent -/
theorem commit_hook_sees_only_changes (parents : List PostCommit.Tree) (hne : parents ≠ []) (t : PostCommit.Tree) (p : Nat)
    (h : p ∈ PostCommit.changed parents t) :
    ∃ par ∈ parents, PostCommit.lookup par p ≠ PostCommit.lookup t p ∨ (∃ b, (p, b) ∈ t ∧ PostCommit.lookup par p ≠ some b) := by
  obtain ⟨par, hpar, hd⟩ := (PostCommit.mem_changed hne).mp h
  refine ⟨par, hpar, ?_⟩
  rcases PostCommit.mem_diffPaths.mp hd with hb | ⟨b, hb, hnone⟩
  · exact Or.inr hb
  · exact Or.inl (hnone ▸ PostCommit.lookup_ne_none hb)

/-- a commit or checkout that changes an attributes file makes the hook look at EVERY file: a file that becomes lockable
    without changing itself is among them (D87) -/
theorem hook_looks_at_everything_when_attributes_change (isAttr : Nat → Bool) (all chg : List Nat) (a : Nat) (ha : a ∈ chg)
    (hattr : isAttr a = true) (f : Nat) (hf : f ∈ all) : f ∈ PostCommit.looked isAttr all chg := by
  have : chg.any isAttr = true := List.any_eq_true.mpr ⟨a, ha, hattr⟩
  simp [PostCommit.looked, this, hf]

/-! tie to commands/command_unlock.go as it is in /repo now -/
/-- the guard of `git lfs unlock --id` looks the lock up in the local cache (third argument true) and, when that
    yields nothing, asks the SERVER (third argument false): the user's own lock that this clone's cache does not
    hold still has a path, so its file's uncommitted changes still block the unlock -/
theorem gen_unlock_by_id_asks_cache_then_server :
    Gen.unlockByIdLookups =
      [[102, 105, 108, 116, 101, 114, 44, 32, 48, 44, 32, 116, 114, 117, 101, 44, 32, 102, 97, 108, 115, 101, 32, 124, 32],
        -- filter, 0, true, false | 
       [102, 105, 108, 116, 101, 114, 44, 32, 48, 44, 32, 102, 97, 108, 115, 101, 44, 32, 102, 97, 108, 115, 101, 32, 124, 32, 108, 101, 110, 40, 108, 111, 99, 107, 115, 41, 32, 61, 61, 32, 48]]
        -- filter, 0, false, false | len(locks) == 0
      := by rfl

/-- tie to commands/command_post_commit.go and command_post_checkout.go: both hooks fall back on the scan of every
    lockable file when a changed path's base name is `.gitattributes` (post-checkout also when the diff fails) -/
theorem gen_hooks_full_scan_on_attribute_change :
    Gen.hookFullScans =
      [
       --  | path.Base(f) == ".gitattributes"
       [32, 124, 32, 112, 97, 116, 104, 46, 66, 97, 115, 101, 40, 102, 41, 32, 61, 61, 32, 34, 46, 103, 105, 116, 97, 116, 116, 114, 105, 98, 117, 116, 101, 115, 34],
       -- client | err != nil
       [99, 108, 105, 101, 110, 116, 32, 124, 32, 101, 114, 114, 32, 33, 61, 32, 110, 105, 108],
       -- client | path.Base(f) == ".gitattributes"
       [99, 108, 105, 101, 110, 116, 32, 124, 32, 112, 97, 116, 104, 46, 66, 97, 115, 101, 40, 102, 41, 32, 61, 61, 32, 34, 46, 103, 105, 116, 97, 116, 116, 114, 105, 98, 117, 116, 101, 115, 34]
      ] := by rfl

end C16
