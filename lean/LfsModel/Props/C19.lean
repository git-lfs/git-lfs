/-
C19 — What `git lfs track` writes means to Git exactly what the user asked.
Git is the authority: the theorems are about what the written pattern means under Git's wildmatch lexer/matcher
(Track.lean, fragment), and the correspondence run checks that fragment against the real `git check-attr`.
-/
import LfsModel.Gen
import LfsModel.TrackProofs
import LfsModel.TrackSeq

namespace C19
open Trk

/-! ### ties to commands/command_track.go as it is in /repo now -/
/-- exactly the four glob characters are backslash-escaped by `--filename` -/
theorem gen_escape_strings : Gen.trackEscapeStrings = [[42], [91], [93], [63]] := rfl
/-- blank ↦ [[:space:]] and `#` ↦ `\#` are the two pattern replacements -/
theorem gen_escape_patterns : Gen.trackEscapeFrom = [[32], [35]] ∧ Gen.trackEscapeTo = [spaceClass, [92, 35]] := ⟨rfl, rfl⟩
/-- the per-character map as the regenerated tables give it -/
def tableEsc (c : UInt8) : Bytes :=
  if c = 92 then [92, 92]
  else if Gen.trackEscapeStrings.contains [c] then [92, c]
  else match (Gen.trackEscapeFrom.zip Gen.trackEscapeTo).find? (fun p => p.1 == [c]) with
    | some p => p.2
    | none => [c]
/-- the model's per-character map agrees with the regenerated tables on every one of the 256 bytes -/
theorem escGlobChar_matches_tables :
    (List.range 256).all (fun n => decide (escGlobChar (UInt8.ofNat n) = tableEsc (UInt8.ofNat n))) = true := by
  -- with the tables as the two theorems above give them, `tableEsc c` is `escGlobChar c` branch by branch
  have agree (c : UInt8) : escGlobChar c = tableEsc c := by
    rw [tableEsc, gen_escape_strings, gen_escape_patterns.1, gen_escape_patterns.2]
    fun_cases escGlobChar c
    · next h => rw [if_pos h]
    · next hg => obtain rfl | rfl | rfl | rfl := isGlobChar_iff.mp hg <;> rfl
    · next h =>
      subst h
      rfl
    · next h =>
      subst h
      rfl
    · simp_all [isGlobChar_iff, eq_comm (b := c)]
  exact List.all_eq_true.mpr fun n _ => decide_eq_true (agree _)

/-- FILENAME, as Git reads it: what `--filename n` writes lexes to exactly the literal characters of
    `n` (a blank as the whitespace class) — no glob operator survives -/
theorem filename_is_literal (n : Bytes) : lex (escapeGlob n) = toks n := lex_escapeGlob n

/-- … so the written pattern matches the name itself -/
theorem filename_matches_itself (n : Bytes) : matchLit (lex (escapeGlob n)) n = true :=
  (matchLit_escapeGlob n n).mpr (sameModuloSpace_refl n)

/-- … and nothing else, except that a blank in the name also admits other whitespace at that
    position (`[[:space:]]`; the known finding D9a: Git has no other unquoted spelling of a blank) -/
theorem filename_matches_only_itself_partial (n q : Bytes) (h : matchLit (lex (escapeGlob n)) q = true) :
    SameModuloSpace n q :=
  (matchLit_escapeGlob n q).mp h

/-- full strength for names without a blank: exactly that literal name -/
theorem filename_matches_only_itself (n q : Bytes) (hn : (32 : UInt8) ∉ n)
    (h : matchLit (lex (escapeGlob n)) q = true) : q = n :=
  sameModuloSpace_noblank n hn q (filename_matches_only_itself_partial n q h)

/-- the refuted full statement, kept as the witness of D9a: TAB matches where the name has a blank -/
theorem d9a_space_class_overmatches : matchLit (lex (escapeGlob [97, 32, 98])) [97, 9, 98] = true := by decide

/-- the written pattern field survives Git's attribute-line tokeniser: it contains no blank or tab
    (for names without a tab), so the first field of the line is the whole escaped pattern -/
theorem pattern_field_intact (n rest : Bytes) (hn : ∀ c ∈ n, c ≠ 9) :
    firstField (escapeGlob n ++ 32 :: rest) = escapeGlob n :=
  firstField_append_noblank _ _ (escapeGlob_noblank n hn)

/-- the refuted variant, D9b: a TAB in the name cuts the pattern field short -/
theorem d9b_tab_splits_field : firstField (escapeGlob [97, 9, 98] ++ 32 :: [102]) = [97] := by decide

/-- non-vacuity: a name with blank, `#`, `*`, `[`, backslash -/
example : escapeGlob [97, 32, 35, 42, 91, 92] = [97] ++ spaceClass ++ [92, 35, 92, 42, 92, 91, 92, 92] := rfl

/-! ### sequences of track / untrack (the lines of .gitattributes as the commands see them) -/
open TrkSeq in
/-- after `git lfs track p` (any lock flag) a line for p — or for p without its leading slash, which
    covers it — assigns filter=lfs -/
theorem seq_track_tracks (ls : List TrkSeq.Line) (p : TrkSeq.Bytes) (f : TrkSeq.Flag) :
    ∃ l ∈ TrkSeq.track ls p f, (l.pat = TrkSeq.joinDot p ∨ l.pat = p) ∧ l.lfs = true :=
  have ⟨l, hl, hp, hlfs, _⟩ := TrkSeq.track_supported ls p f
  ⟨l, hl, hp, hlfs⟩

/-- re-running track with the same argument changes nothing -/
theorem seq_track_idempotent (ls : List TrkSeq.Line) (p : TrkSeq.Bytes) (f : TrkSeq.Flag) :
    TrkSeq.track (TrkSeq.track ls p f) p f = TrkSeq.track ls p f := TrkSeq.track_idempotent ls p f

/-- without --lockable / --not-lockable the pattern's lockable attribute is left as it is -/
theorem seq_track_leaves_lockable (ls : List TrkSeq.Line) (p : TrkSeq.Bytes)
    (h : ∃ l ∈ ls, l.pat = p ∧ TrkSeq.known l = true ∧ l.lockable = true) :
    ∃ l ∈ TrkSeq.track ls p .none, l.pat = p ∧ l.lockable = true := by
  open TrkSeq in
  obtain ⟨l, hl, rfl, hk, hlk⟩ := h
  rcases track_cases ls l.pat .none with ⟨_, e⟩ | hm
  · exact ⟨l, e.symm ▸ hl, rfl, hlk⟩
  · have hkeep : keepLock ls l.pat .none = true := by
      simp only [keepLock, List.any_eq_true, Bool.and_eq_true]
      exact ⟨rfl, l, hl, about_self hl hk, hlk⟩
    exact ⟨_, hm, rfl, by simp [newLine, hkeep]⟩

/-- after `git lfs untrack p` no line assigns filter=lfs to p, and it stays so when repeated -/
theorem seq_untrack_untracks (ls : List TrkSeq.Line) (p : TrkSeq.Bytes) :
    (∀ l ∈ TrkSeq.untrack ls p, ¬ (l.pat = p ∧ l.lfs = true)) ∧
    TrkSeq.untrack (TrkSeq.untrack ls p) p = TrkSeq.untrack ls p :=
  ⟨fun _ hl => (TrkSeq.mem_untrack.mp hl).2, TrkSeq.untrack_idempotent ls p⟩

/-- the lines of every pattern that no operation of a sequence names come out as they went in -/
theorem seq_other_patterns_unchanged (ops : List TrkSeq.Op) (q : TrkSeq.Bytes)
    (h : ∀ o ∈ ops, (q == TrkSeq.opPat o) = false) (ls : List TrkSeq.Line) :
    (TrkSeq.run ls ops).filter (·.pat == q) = ls.filter (·.pat == q) := TrkSeq.run_others ops q h ls

/-- non-vacuity: `track --lockable /p ; track /p` on a file with a comment keeps lockable (D50) -/
example :
    (TrkSeq.run [⟨[35], false, false, false, 1⟩] [.track [47, 112] .lock, .track [47, 112] .none]).map (fun l => (l.pat, l.lfs, l.lockable)) =
      [([35], false, false), ([47, 112], true, true)] := rfl

/-- a lock flag given for a pattern that a line of the file spells exactly changes a line of that spelling — not
    lockable afterwards — whatever other lines cover the same files (D77: `x.bin`, not lockable, beside
    `/x.bin lockable` made `track --not-lockable /x.bin` answer "already supported") -/
theorem seq_unlock_takes_effect_on_the_exact_line (ls : List TrkSeq.Line) (p : TrkSeq.Bytes)
    (h : ∃ l ∈ ls, TrkSeq.known l = true ∧ l.pat = p) :
    ∃ l ∈ TrkSeq.track ls p .unlock, l.pat = p ∧ l.lfs = true ∧ l.lockable = false := by
  open TrkSeq in
  obtain ⟨l0, hl0, hk0, rfl⟩ := h
  rcases track_cases ls l0.pat .unlock with ⟨ha, e⟩ | hm
  · obtain ⟨l, hl, hab, hlfs, hk⟩ := already_iff.mp ha
    simp only [about, exact_of_mem hl0 hk0, if_true, Bool.and_eq_true, beq_iff_eq] at hab
    exact ⟨l, e.symm ▸ hl, hab.2, hlfs, by simpa [flagOK] using hk⟩
  · exact ⟨_, hm, rfl, rfl, by simp [newLine, keepLock]⟩

/-- tie to git/attribs.go (findAttributeFiles): only $GIT_DIR/info/attributes (`true`) and the file whose path
    from the work-tree root is exactly `.gitattributes` contribute macro definitions -/
theorem gen_macro_definitions_top_level_only :
    Gen.attrFileMacroConditions =
      [[116, 114, 117, 101],   -- true
       [102, 46, 70, 117, 108, 108, 80, 97, 116, 104, 32, 61, 61, 32, 34, 46, 103, 105, 116, 97, 116, 116, 114, 105, 98, 117, 116, 101, 115, 34]]
        -- f.FullPath == ".gitattributes"
      := by rfl

/-- tie to commands/command_track.go: while the old file is copied, a line whose pattern changed is replaced by the new line AT ITS PLACE (first entry), every other line is written back as it was; only what is left afterwards goes to the end -/
theorem gen_changed_line_written_in_place :
    Gen.trackRewriteInPlace =
      [
       -- newline | !trackNoModifyAttrsFlag && len(attribContents) > 0 && ok
       [110, 101, 119, 108, 105, 110, 101, 32, 124, 32, 33, 116, 114, 97, 99, 107, 78, 111, 77, 111, 100, 105, 102, 121, 65, 116, 116, 114, 115, 70, 108, 97, 103, 32, 38, 38, 32, 108, 101, 110, 40, 97, 116, 116, 114, 105, 98, 67, 111, 110, 116, 101, 110, 116, 115, 41, 32, 62, 32, 48, 32, 38, 38, 32, 111, 107],
       -- line + lineEnd | !trackNoModifyAttrsFlag && len(attribContents) > 0 && !(ok)
       [108, 105, 110, 101, 32, 43, 32, 108, 105, 110, 101, 69, 110, 100, 32, 124, 32, 33, 116, 114, 97, 99, 107, 78, 111, 77, 111, 100, 105, 102, 121, 65, 116, 116, 114, 115, 70, 108, 97, 103, 32, 38, 38, 32, 108, 101, 110, 40, 97, 116, 116, 114, 105, 98, 67, 111, 110, 116, 101, 110, 116, 115, 41, 32, 62, 32, 48, 32, 38, 38, 32, 33, 40, 111, 107, 41],
       -- newline | !trackNoModifyAttrsFlag
       [110, 101, 119, 108, 105, 110, 101, 32, 124, 32, 33, 116, 114, 97, 99, 107, 78, 111, 77, 111, 100, 105, 102, 121, 65, 116, 116, 114, 115, 70, 108, 97, 103]
      ] := by rfl

/-- tie to commands/command_track.go: which known lines `track` passes over when it looks for the line that already
    supports its argument (TrkSeq.about: another pattern; not the exact spelling when there is one; in the file being
    written — and only there — the rooted spelling of a sub-directory against the unrooted one), where it stops
    ("already supported": `continue ArgsLoop`), and how `sameFile`, `knownPath` and `exact` are computed.  The last
    entries of the first block are the blank-line, blocklist and error skips of the later loops. -/
theorem gen_track_known_line_skips :
    Gen.trackKnownSkips =
      [
       -- continue | !trackNoModifyAttrsFlag && knownPath != path.Join(relpath, pattern) && !(relpath == "." && knownPath == pattern)
       [99, 111, 110, 116, 105, 110, 117, 101, 32, 124, 32, 33, 116, 114, 97, 99, 107, 78, 111, 77, 111, 100, 105, 102, 121, 65, 116, 116, 114, 115, 70, 108, 97, 103, 32, 38, 38, 32, 107, 110, 111, 119, 110, 80, 97, 116, 104, 32, 33, 61, 32, 112, 97, 116, 104, 46, 74, 111, 105, 110, 40, 114, 101, 108, 112, 97, 116, 104, 44, 32, 112, 97, 116, 116, 101, 114, 110, 41, 32, 38, 38, 32, 33, 40, 114, 101, 108, 112, 97, 116, 104, 32, 61, 61, 32, 34, 46, 34, 32, 38, 38, 32, 107, 110, 111, 119, 110, 80, 97, 116, 104, 32, 61, 61, 32, 112, 97, 116, 116, 101, 114, 110, 41],
       -- continue | !trackNoModifyAttrsFlag && exact && knownPath != pattern
       [99, 111, 110, 116, 105, 110, 117, 101, 32, 124, 32, 33, 116, 114, 97, 99, 107, 78, 111, 77, 111, 100, 105, 102, 121, 65, 116, 116, 114, 115, 70, 108, 97, 103, 32, 38, 38, 32, 101, 120, 97, 99, 116, 32, 38, 38, 32, 107, 110, 111, 119, 110, 80, 97, 116, 104, 32, 33, 61, 32, 112, 97, 116, 116, 101, 114, 110],
       -- continue | !trackNoModifyAttrsFlag && sameFile && relpath != "." && known.AnyDepth != !strings.Contains(strings.TrimSuffix(pattern, "/"), "/")
       [99, 111, 110, 116, 105, 110, 117, 101, 32, 124, 32, 33, 116, 114, 97, 99, 107, 78, 111, 77, 111, 100, 105, 102, 121, 65, 116, 116, 114, 115, 70, 108, 97, 103, 32, 38, 38, 32, 115, 97, 109, 101, 70, 105, 108, 101, 32, 38, 38, 32, 114, 101, 108, 112, 97, 116, 104, 32, 33, 61, 32, 34, 46, 34, 32, 38, 38, 32, 107, 110, 111, 119, 110, 46, 65, 110, 121, 68, 101, 112, 116, 104, 32, 33, 61, 32, 33, 115, 116, 114, 105, 110, 103, 115, 46, 67, 111, 110, 116, 97, 105, 110, 115, 40, 115, 116, 114, 105, 110, 103, 115, 46, 84, 114, 105, 109, 83, 117, 102, 102, 105, 120, 40, 112, 97, 116, 116, 101, 114, 110, 44, 32, 34, 47, 34, 41, 44, 32, 34, 47, 34, 41],
       -- continue ArgsLoop | !trackNoModifyAttrsFlag && known.Tracked && ((trackLockableFlag && known.Lockable) || (trackNotLockableFlag && !known.Lockable) || (!trackLockableFlag && !trackNotLockableFlag))
       [99, 111, 110, 116, 105, 110, 117, 101, 32, 65, 114, 103, 115, 76, 111, 111, 112, 32, 124, 32, 33, 116, 114, 97, 99, 107, 78, 111, 77, 111, 100, 105, 102, 121, 65, 116, 116, 114, 115, 70, 108, 97, 103, 32, 38, 38, 32, 107, 110, 111, 119, 110, 46, 84, 114, 97, 99, 107, 101, 100, 32, 38, 38, 32, 40, 40, 116, 114, 97, 99, 107, 76, 111, 99, 107, 97, 98, 108, 101, 70, 108, 97, 103, 32, 38, 38, 32, 107, 110, 111, 119, 110, 46, 76, 111, 99, 107, 97, 98, 108, 101, 41, 32, 124, 124, 32, 40, 116, 114, 97, 99, 107, 78, 111, 116, 76, 111, 99, 107, 97, 98, 108, 101, 70, 108, 97, 103, 32, 38, 38, 32, 33, 107, 110, 111, 119, 110, 46, 76, 111, 99, 107, 97, 98, 108, 101, 41, 32, 124, 124, 32, 40, 33, 116, 114, 97, 99, 107, 76, 111, 99, 107, 97, 98, 108, 101, 70, 108, 97, 103, 32, 38, 38, 32, 33, 116, 114, 97, 99, 107, 78, 111, 116, 76, 111, 99, 107, 97, 98, 108, 101, 70, 108, 97, 103, 41, 41],
       -- continue | !trackNoModifyAttrsFlag && len(attribContents) > 0 && len(fields) < 1
       [99, 111, 110, 116, 105, 110, 117, 101, 32, 124, 32, 33, 116, 114, 97, 99, 107, 78, 111, 77, 111, 100, 105, 102, 121, 65, 116, 116, 114, 115, 70, 108, 97, 103, 32, 38, 38, 32, 108, 101, 110, 40, 97, 116, 116, 114, 105, 98, 67, 111, 110, 116, 101, 110, 116, 115, 41, 32, 62, 32, 48, 32, 38, 38, 32, 108, 101, 110, 40, 102, 105, 101, 108, 100, 115, 41, 32, 60, 32, 49],
       -- continue | matchedBlocklist
       [99, 111, 110, 116, 105, 110, 117, 101, 32, 124, 32, 109, 97, 116, 99, 104, 101, 100, 66, 108, 111, 99, 107, 108, 105, 115, 116],
       -- continue | !trackDryRunFlag && err != nil
       [99, 111, 110, 116, 105, 110, 117, 101, 32, 124, 32, 33, 116, 114, 97, 99, 107, 68, 114, 121, 82, 117, 110, 70, 108, 97, 103, 32, 38, 38, 32, 101, 114, 114, 32, 33, 61, 32, 110, 105, 108],
       -- sameFile := path.Dir(filepath.ToSlash(known.Source.Path)) == filepath.ToSlash(relpath) | !trackNoModifyAttrsFlag
       [115, 97, 109, 101, 70, 105, 108, 101, 32, 58, 61, 32, 112, 97, 116, 104, 46, 68, 105, 114, 40, 102, 105, 108, 101, 112, 97, 116, 104, 46, 84, 111, 83, 108, 97, 115, 104, 40, 107, 110, 111, 119, 110, 46, 83, 111, 117, 114, 99, 101, 46, 80, 97, 116, 104, 41, 41, 32, 61, 61, 32, 102, 105, 108, 101, 112, 97, 116, 104, 46, 84, 111, 83, 108, 97, 115, 104, 40, 114, 101, 108, 112, 97, 116, 104, 41, 32, 124, 32, 33, 116, 114, 97, 99, 107, 78, 111, 77, 111, 100, 105, 102, 121, 65, 116, 116, 114, 115, 70, 108, 97, 103],
       -- knownPath := unescapeAttrPattern(known.Path) | !trackNoModifyAttrsFlag
       [107, 110, 111, 119, 110, 80, 97, 116, 104, 32, 58, 61, 32, 117, 110, 101, 115, 99, 97, 112, 101, 65, 116, 116, 114, 80, 97, 116, 116, 101, 114, 110, 40, 107, 110, 111, 119, 110, 46, 80, 97, 116, 104, 41, 32, 124, 32, 33, 116, 114, 97, 99, 107, 78, 111, 77, 111, 100, 105, 102, 121, 65, 116, 116, 114, 115, 70, 108, 97, 103],
       -- true | !trackNoModifyAttrsFlag && relpath == "." && unescapeAttrPattern(known.Path) == pattern && path.Dir(filepath.ToSlash(known.Source.Path)) == "."
       [116, 114, 117, 101, 32, 124, 32, 33, 116, 114, 97, 99, 107, 78, 111, 77, 111, 100, 105, 102, 121, 65, 116, 116, 114, 115, 70, 108, 97, 103, 32, 38, 38, 32, 114, 101, 108, 112, 97, 116, 104, 32, 61, 61, 32, 34, 46, 34, 32, 38, 38, 32, 117, 110, 101, 115, 99, 97, 112, 101, 65, 116, 116, 114, 80, 97, 116, 116, 101, 114, 110, 40, 107, 110, 111, 119, 110, 46, 80, 97, 116, 104, 41, 32, 61, 61, 32, 112, 97, 116, 116, 101, 114, 110, 32, 38, 38, 32, 112, 97, 116, 104, 46, 68, 105, 114, 40, 102, 105, 108, 101, 112, 97, 116, 104, 46, 84, 111, 83, 108, 97, 115, 104, 40, 107, 110, 111, 119, 110, 46, 83, 111, 117, 114, 99, 101, 46, 80, 97, 116, 104, 41, 41, 32, 61, 61, 32, 34, 46, 34]
      ] := by rfl

end C19
