/-
C01 — Clean then smudge returns the original bytes; the pointer names the SHA-256 and length of
what is stored.
`H` is SHA-256, abstract; the hypotheses used about it are explicit:
  hH    : its values are 64 lower-case hex digits,
  Intact: every stored object hashes to its name (I4: the store is intact before the call),
  hpre  : no second preimage of `H b` (needed only to conclude byte equality, not length/hash).
-/
import LfsModel.Gen
import LfsModel.FilterRound
import LfsModel.CheckoutProofs

namespace C01
open Flt
open LfsA (Stream)

def Intact (H : Bytes → Bytes) (st : Store) : Prop := ∀ o c, st.get o = some c → H c = o

theorem gen_cutoff : Gen.blobSizeCutoff = Flt.cut := rfl

/-- clean keeps the store intact -/
theorem clean_preserves_intact (H : Bytes → Bytes) (s : Stream) (st : Store) (hi : Intact H st) :
    Intact H (clean H s st).2 := by
  rw [clean_eq_spec]
  rcases cleanSpec_snd H s.data st with h | h
  · rw [h]; exact hi
  · rw [h]
    intro o c hg
    rcases Store.get_cons_eq_some hg with ⟨rfl, rfl⟩ | hg
    · rfl
    · exact hi o c hg

/-- the emitted pointer records exactly the hash and byte length of what is stored under that id,
    for every chunking of the input -/
theorem pointer_names_stored_hash (H : Bytes → Bytes) (s : Stream) (st : Store) (hi : Intact H st)
    {oid c : Bytes} (h : (clean H s st).1 = .stored oid c) :
    oid = H s.data ∧ c = s.data ∧
    ∃ c', (clean H s st).2.get oid = some c' ∧ H c' = oid ∧ c'.length = s.data.length := by
  rw [clean_eq_spec] at h ⊢
  cases hd : Lfs.dec s.data with
  | ok x => rw [cleanSpec_of_ok hd] at h; cases h
  | error e =>
    rw [cleanSpec_of_error hd] at h ⊢
    cases hg : st.get (H s.data) with
    | none =>
      rw [hg] at h
      cases h
      exact ⟨rfl, rfl, s.data, by simp [Store.get], rfl, rfl⟩
    | some c0 =>
      simp only [hg] at h
      -- of the two outcomes only the one with matching lengths is `.stored`
      split at h <;> cases h
      exact ⟨rfl, rfl, c0, hg, hi _ _ hg, ‹_›⟩

/-- an empty file maps to an empty pointer and back, for every (empty) stream -/
theorem empty_roundtrip (H : Bytes → Bytes) (s : Stream) (st : Store) (h : s.data = []) :
    clean H s st = (.pass [], st) ∧ smudge s st = .bytes [] false := by
  constructor
  · rw [clean_eq_spec, h]; rfl
  · rw [smudge_eq_spec, h]; rfl

/-- without the second-preimage hypothesis the smudged bytes still have the named hash and length -/
theorem roundtrip_hash (H : Bytes → Bytes) (hH : ∀ b, Lfs.isOid (H b) = true)
    (s t : Stream) (st : Store) (hi : Intact H st)
    (hlen : s.data.length ≤ Lfs.maxInt64)
    {oid c : Bytes} (h : (clean H s st).1 = .stored oid c)
    (ht : t.data = (clean H s st).1.out) :
    ∃ c', smudge t (clean H s st).2 = .bytes c' false ∧ H c' = H s.data ∧ c'.length = s.data.length := by
  obtain ⟨rfl, rfl, c', hg, hH', hl⟩ := pointer_names_stored_hash H s st hi h
  have hne : s.data ≠ [] := by
    intro he
    rw [(empty_roundtrip H s st he).1] at h
    cases h
  refine ⟨c', ?_, hH', hl⟩
  rw [smudge_eq_spec, ht, h]
  exact smudgeSpec_of_local (dec_emitted (hH _) hne hlen) (mt List.eq_nil_of_length_eq_zero hne) hg hl

/-- ROUND TRIP.  Content that is not itself a pointer, cleaned (any chunking `s`) and then smudged
    (any chunking `t` of the emitted pointer) from the resulting store, yields the original bytes. -/
theorem roundtrip (H : Bytes → Bytes) (hH : ∀ b, Lfs.isOid (H b) = true)
    (s t : Stream) (st : Store) (hi : Intact H st)
    (hpre : ∀ c, H c = H s.data → c = s.data)
    (hlen : s.data.length ≤ Lfs.maxInt64)
    {oid c : Bytes} (h : (clean H s st).1 = .stored oid c)
    (ht : t.data = (clean H s st).1.out) :
    smudge t (clean H s st).2 = .bytes s.data false := by
  obtain ⟨c', hs, hH', -⟩ := roundtrip_hash H hH s t st hi hlen h ht
  rw [hs, hpre c' hH']

/-- an object already present with the right length is kept (never overwritten); one with another
    length makes clean stop ("Files don't match") without touching the store -/
theorem existing_object_not_overwritten (H : Bytes → Bytes) (s : Stream) (st : Store) {c0 : Bytes}
    (hg : st.get (H s.data) = some c0) : (clean H s st).2 = st := by
  rw [clean_eq_spec]
  cases hd : Lfs.dec s.data with
  | ok x => rw [cleanSpec_of_ok hd]
  | error e => rw [cleanSpec_of_error hd, hg]

/-- non-vacuity of the round-trip hypotheses: an intact one-object store and content that is not a pointer -/
example : Intact (fun b => b) [([1, 2], [1, 2])] := by
  intro o c h
  rcases Store.get_cons_eq_some h with ⟨rfl, rfl⟩ | h
  · rfl
  · cases h

/-- smudging into a named path or output file (lfs.GitFilter.SmudgeToFile: `git lfs checkout [--to]`,
    `git lfs pull`): the file ends up holding exactly the object's bytes whatever sat there before —
    no file, the same file, another file of the same length, a shorter or a longer one -/
theorem smudge_to_file_exact (recorded : Lfs.Ptr) (st : Co.Store) (content : Lfs.Bytes) (cur : Co.WFile)
    (h : st.get recorded.oid = some content) (hs : recorded.size ≠ 0) :
    Co.smudgeToFile recorded st cur = content := by
  rw [Co.smudgeToFile_eq fun _ => hs, h, Option.getD_some]

/-! ### the merge driver's output file (commands/command_merge_driver.go: processFiles).
A file opened for writing WITHOUT `O_TRUNC` keeps the old tail beyond what is written. -/
open Flt in
/-- with `O_TRUNC` (the D2 repair) the output file holds exactly the cleaned text, whatever it held before -/
theorem merge_driver_output_exact (old new : Bytes) : Flt.mergeDriverOutput old new = new := rfl
/-- the refuted variant, kept as the regression witness of D2: a shorter new pointer keeps the old tail -/
theorem merge_driver_tail_counterexample : Flt.writeOver false [115,105,122,101,32,49,50,51,52,53,10] [115,105,122,101,32,51,10]
    = [115,105,122,101,32,51,10,51,52,53,10] := by rfl

/-! tie to commands/command_merge_driver.go (mergeProcessInput) as it is in /repo now -/
/-- every version that goes into a merge gets a temporary file of its own, filled by copying (non-LFS content) or by
    smudging the pointer: there is no link into local storage for a merge program to write through (as in the trial
    change seeded/C01-merge-inputs-hard-linked-from-the-store), and each step that can fail — the smudge included
    (D84) — ends the merge instead of handing the program an empty file -/
theorem gen_merge_inputs_are_private_copies :
    Gen.mergeInputCalls =
      [
       -- lfs.TempFile: cfg, fmt.Sprintf("merge-driver-%s", tag) | 
       [108, 102, 115, 46, 84, 101, 109, 112, 70, 105, 108, 101, 58, 32, 99, 102, 103, 44, 32, 102, 109, 116, 46, 83, 112, 114, 105, 110, 116, 102, 40, 34, 109, 101, 114, 103, 101, 45, 100, 114, 105, 118, 101, 114, 45, 37, 115, 34, 44, 32, 116, 97, 103, 41, 32, 124, 32],
       -- lfs.DecodePointerFromFile: filename | 
       [108, 102, 115, 46, 68, 101, 99, 111, 100, 101, 80, 111, 105, 110, 116, 101, 114, 70, 114, 111, 109, 70, 105, 108, 101, 58, 32, 102, 105, 108, 101, 110, 97, 109, 101, 32, 124, 32],
       -- lfs.CopyFileContents: cfg, filename, file.Name() | err != nil && errors.IsNotAPointerError(err)
       [108, 102, 115, 46, 67, 111, 112, 121, 70, 105, 108, 101, 67, 111, 110, 116, 101, 110, 116, 115, 58, 32, 99, 102, 103, 44, 32, 102, 105, 108, 101, 110, 97, 109, 101, 44, 32, 102, 105, 108, 101, 46, 78, 97, 109, 101, 40, 41, 32, 124, 32, 101, 114, 114, 32, 33, 61, 32, 110, 105, 108, 32, 38, 38, 32, 101, 114, 114, 111, 114, 115, 46, 73, 115, 78, 111, 116, 65, 80, 111, 105, 110, 116, 101, 114, 69, 114, 114, 111, 114, 40, 101, 114, 114, 41],
       -- tr.Tr.Get("could not create temporary file when merging: %s", err) | err != nil
       [116, 114, 46, 84, 114, 46, 71, 101, 116, 40, 34, 99, 111, 117, 108, 100, 32, 110, 111, 116, 32, 99, 114, 101, 97, 116, 101, 32, 116, 101, 109, 112, 111, 114, 97, 114, 121, 32, 102, 105, 108, 101, 32, 119, 104, 101, 110, 32, 109, 101, 114, 103, 105, 110, 103, 58, 32, 37, 115, 34, 44, 32, 101, 114, 114, 41, 32, 124, 32, 101, 114, 114, 32, 33, 61, 32, 110, 105, 108],
       -- tr.Tr.Get("could not copy non-LFS content when merging: %s", err) | err != nil && errors.IsNotAPointerError(err) && err != nil
       [116, 114, 46, 84, 114, 46, 71, 101, 116, 40, 34, 99, 111, 117, 108, 100, 32, 110, 111, 116, 32, 99, 111, 112, 121, 32, 110, 111, 110, 45, 76, 70, 83, 32, 99, 111, 110, 116, 101, 110, 116, 32, 119, 104, 101, 110, 32, 109, 101, 114, 103, 105, 110, 103, 58, 32, 37, 115, 34, 44, 32, 101, 114, 114, 41, 32, 124, 32, 101, 114, 114, 32, 33, 61, 32, 110, 105, 108, 32, 38, 38, 32, 101, 114, 114, 111, 114, 115, 46, 73, 115, 78, 111, 116, 65, 80, 111, 105, 110, 116, 101, 114, 69, 114, 114, 111, 114, 40, 101, 114, 114, 41, 32, 38, 38, 32, 101, 114, 114, 32, 33, 61, 32, 110, 105, 108],
       -- tr.Tr.Get("could not decode pointer when merging: %s", err) | err != nil && !(errors.IsNotAPointerError(err))
       [116, 114, 46, 84, 114, 46, 71, 101, 116, 40, 34, 99, 111, 117, 108, 100, 32, 110, 111, 116, 32, 100, 101, 99, 111, 100, 101, 32, 112, 111, 105, 110, 116, 101, 114, 32, 119, 104, 101, 110, 32, 109, 101, 114, 103, 105, 110, 103, 58, 32, 37, 115, 34, 44, 32, 101, 114, 114, 41, 32, 124, 32, 101, 114, 114, 32, 33, 61, 32, 110, 105, 108, 32, 38, 38, 32, 33, 40, 101, 114, 114, 111, 114, 115, 46, 73, 115, 78, 111, 116, 65, 80, 111, 105, 110, 116, 101, 114, 69, 114, 114, 111, 114, 40, 101, 114, 114, 41, 41],
       -- tr.Tr.Get("could not create callback: %s", err) | err != nil
       [116, 114, 46, 84, 114, 46, 71, 101, 116, 40, 34, 99, 111, 117, 108, 100, 32, 110, 111, 116, 32, 99, 114, 101, 97, 116, 101, 32, 99, 97, 108, 108, 98, 97, 99, 107, 58, 32, 37, 115, 34, 44, 32, 101, 114, 114, 41, 32, 124, 32, 101, 114, 114, 32, 33, 61, 32, 110, 105, 108],
       -- tr.Tr.Get("could not get the content of %s when merging: %s", filename, err) | err != nil
       [116, 114, 46, 84, 114, 46, 71, 101, 116, 40, 34, 99, 111, 117, 108, 100, 32, 110, 111, 116, 32, 103, 101, 116, 32, 116, 104, 101, 32, 99, 111, 110, 116, 101, 110, 116, 32, 111, 102, 32, 37, 115, 32, 119, 104, 101, 110, 32, 109, 101, 114, 103, 105, 110, 103, 58, 32, 37, 115, 34, 44, 32, 102, 105, 108, 101, 110, 97, 109, 101, 44, 32, 101, 114, 114, 41, 32, 124, 32, 101, 114, 114, 32, 33, 61, 32, 110, 105, 108]
      ] := by rfl

end C01
