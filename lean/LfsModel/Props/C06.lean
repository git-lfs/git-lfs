/-
C06 — Transfer queue: every added object is accounted for and Add/Wait return.
The model is the status-map event system of TQ.lean (tq/transfer_queue.go after the D3/D4/D19 repairs) plus the
trace wrapper of TQTrace.lean; "all interleavings" = all event lists accepted by `step`/`xstep`.
-/
import LfsModel.Gen
import LfsModel.TQTraceProofs
import LfsModel.TQErr
import LfsModel.TQConcat
import LfsModel.TQAbort

namespace C06
open TQ

theorem gen_defaultBatchSize : Gen.defaultBatchSize = 100 := rfl
theorem gen_defaultMaxRetries : Gen.defaultMaxRetries = 8 := rfl

def init (cap bs mr : Nat) : State := { cap := cap, batchSize := bs, maxRetries := mr }

/-- SAFETY, every reachable state (any interleaving of producer, collector, batch worker, adapter
    results, Wait): the pending counter equals the number of distinct objects that are still live —
    `known` has no duplicates, the counter is never negative, and only successfully transferred
    objects are ever in the delivered list. -/
theorem counter_accounting (cap bs mr : Nat) (es : List XEv) (s : State)
    (hr : xrun (init cap bs mr) es = some s) : Inv s :=
  xrun_inv es (inv_init cap bs mr) hr

theorem no_negative_counter (cap bs mr : Nat) (es : List XEv) (s : State)
    (hr : xrun (init cap bs mr) es = some s) (hna : s.aborted = false) : 0 ≤ s.counter :=
  inv_counter_nonneg (counter_accounting cap bs mr es s hr) hna

theorem delivery_implies_success (cap bs mr : Nat) (es : List XEv) (s : State)
    (hr : xrun (init cap bs mr) es = some s) : ∀ o ∈ s.delivered, s.st o = .term .delivered :=
  (counter_accounting cap bs mr es s hr).deliv

/-- CONSERVATION: when Wait has returned (counter zero, no abort) every object that was ever added
    is delivered, declared by the server to need no transfer, or failed with a reported error. -/
theorem conservation_at_quiescence (cap bs mr : Nat) (es : List XEv) (s : State)
    (hr : xrun (init cap bs mr) es = some s) (hna : s.aborted = false) (hc : s.counter = 0) :
    ∀ o ∈ s.known, s.st o = .term .delivered ∨ s.st o = .term .noAction ∨ s.st o = .term .errored := by
  intro o ho
  obtain ⟨t, ht⟩ := inv_all_terminal (counter_accounting cap bs mr es s hr) hna hc o ho
  cases t with
  | delivered => exact Or.inl ht
  | noAction => exact Or.inr (Or.inl ht)
  | errored => exact Or.inr (Or.inr ht)

/-- ERROR COVERAGE: in every reachable state an object that ended as "errored" is covered by a
    reported error (the error count is positive) — in particular after a batch API call that failed
    while only SOME of its objects could be re-queued. -/
theorem errored_objects_are_reported (cap bs mr : Nat) (es : List XEv) (s : State)
    (hr : xrun (init cap bs mr) es = some s) (o : Oid) (ho : s.st o = .term .errored) : 0 < s.errors := by
  rcases xrun_errCover es (Or.inr fun _ h0 => by cases h0) hr with h | h
  · exact h
  · exact absurd ho (h o)

/-- LIVENESS 1: every event except `add` strictly decreases the measure `mu`, so a run that stops
    adding has at most `mu s` further queue events. -/
theorem runs_terminate (es : List Ev) (s s' : State) (h : Inv s) (hna : ∀ e ∈ es, ∀ o, e ≠ .add o)
    (hr : run s es = some s') : es.length ≤ mu s :=
  run_length_le_mu es s s' h hna hr

/-- LIVENESS 2: while Wait has been called and has not returned, some event other than `add` is
    enabled — the queue is never stuck; together with `runs_terminate`: Wait returns. -/
theorem no_stuck_state (s : State) (h : Inv s) (hw : s.waitCalled = true) (hr : s.waitReturned = false)
    (hb : 1 ≤ s.batchSize) : ∃ e, (∀ o, e ≠ .add o) ∧ (step s e).isSome = true :=
  TQ.no_stuck_state s h hw hr hb

/-- an `Add` of a new object is enabled whenever `incoming` has room; duplicates are always enabled -/
theorem add_enabled (s : State) (o : Oid) (hw : s.waitCalled = false)
    (hroom : s.st o ≠ .unknown ∨ countSt s (· == .incoming) < s.cap) : (step s (.add o)).isSome = true := by
  -- the first guard of `step` is passed; the rest looks at the status of `o`
  rw [show step s (.add o) = _ from if_neg (Bool.eq_false_iff.mp hw)]
  split
  · next hu =>
    rw [if_pos (hroom.resolve_left fun h => h hu)]
    rfl
  · rfl
  · rfl

/-- what the correspondence run relies on: a trace accepted by the validator is a run of the model -/
theorem trace_validation_sound (ws : List TW) (s s' : State) (h : vrun s ws 0 = .ok s') :
    ∃ es, xrun s es = some s' := vrun_sound ws h

/-- non-vacuity: one object, one retry, then delivery; Wait returns with counter 0 -/
example : ∃ s, xrun (init 4 2 8)
    [.core (.add 7), .core (.add 7), .core (.collTake 7), .core (.batchStart [7]), .core (.reply 7 .action),
     .core (.jobResult 7 .retriable), .core (.batchEnd 7), .core (.batchStart [7]), .replyIgnored, .core (.reply 7 .action),
     .core (.jobResult 7 .ok), .core .waitCall, .core .waitReturn] = some s
    ∧ s.counter = 0 ∧ s.delivered = [7, 7] ∧ s.rc 7 = 1 := by
  exact ⟨_, rfl, rfl, rfl, rfl⟩

/-! ### batch.Concat: what the collector carries from one batch to the next -/

/-- the split into "next batch" and "remainder" loses nothing and duplicates nothing: every object
    left over from the running batch or collected since is in exactly one of the two -/
theorem concat_conserves (now : Int) (b other : List TQConcat.Item) (size : Nat) :
    ((TQConcat.concat now b other size).1 ++ (TQConcat.concat now b other size).2).Perm (b ++ other) :=
  TQConcat.concat_conserves now b other size

/-- in particular an object that still has to wait (back-off, Retry-After) stays in the remainder,
    also when the ready objects overflow the batch size -/
theorem concat_waiting_kept (now : Int) (b other : List TQConcat.Item) (size : Nat) (it : TQConcat.Item)
    (hm : it ∈ b ++ other) (hw : ¬ it.2 < now) : it ∈ (TQConcat.concat now b other size).2 :=
  TQConcat.concat_waiting_kept now b other size it hm hw

theorem concat_left_bounded (now : Int) (b other : List TQConcat.Item) (size : Nat) :
    (TQConcat.concat now b other size).1.length ≤ size := TQConcat.concat_left_bounded now b other size

/-- non-vacuity (the shape of the trial change seeded/C06-concat-overflow-drops-delayed-retries): two delayed retries,
    three ready objects, batch size 2 -/
example : TQConcat.concat 100 [(1, 500), (2, 700)] [(3, 0), (4, 0), (5, 0)] 2 =
    ([(3, 0), (4, 0)], [(1, 500), (2, 700), (5, 0)]) := by decide

/-! ### the counter Wait() blocks on (abortableWaitGroup) -/

/-- once the queue has given up, waiting for it returns — whatever the producer adds afterwards and
    whatever transfers still report -/
theorem wait_returns_once_the_queue_gave_up (pre post : List TQAbort.Op)
    (hpre : ∀ o ∈ pre, o ≠ .abort) (hpost : ∀ o ∈ post, o ≠ .abort) :
    TQAbort.waitReturns (TQAbort.run {} (pre ++ [.abort] ++ post)) = true :=
  TQAbort.wait_returns_after_abort pre post hpre hpost

/-- … and while it has not, exactly when everything that was added has been finished -/
theorem wait_returns_when_all_is_finished (ops : List TQAbort.Op) (h : ∀ o ∈ ops, o ≠ .abort) :
    TQAbort.waitReturns (TQAbort.run {} ops) = true ↔ (TQAbort.run {} ops).counter = 0 :=
  TQAbort.wait_returns_iff_balanced ops h

/-- non-vacuity: two adds, the abort, a late add, a late done -/
example : TQAbort.waitReturns (TQAbort.run {} [.add 1, .add 1, .abort, .add 1, .done]) = true := by decide

/-- tie to tq/transfer_queue.go: an object of the batch answer that was asked for is deleted from the request set at once, unconditionally — a second entry for the same oid is then an unknown one (no second transfer, no second Done) -/
theorem gen_answered_object_leaves_the_request_set :
    Gen.tqAnsweredOnce =
      [
       -- requested, o.Oid | 
       [114, 101, 113, 117, 101, 115, 116, 101, 100, 44, 32, 111, 46, 79, 105, 100, 32, 124, 32]
      ] := by rfl

end C06
