/-
C04 — Fetch, pull and checkout materialise exact content and never clobber edits.
-/
import LfsModel.CheckoutProofs
import LfsModel.PathList

namespace C04
open Lfs Co

/-- `Filter.Allows` says exactly: (no include patterns or one of them matches) and (an include
    matched or the default is true) and no exclude pattern matches — for every pattern type,
    matcher, pattern lists and file name -/
theorem allows_bool {P : Type} (m : P → Bytes → Bool) (inc exc : List P) (dflt : Bool) (f : Bytes) :
    allows m inc exc dflt f =
      ((inc.isEmpty || inc.any (fun p => m p f)) && ((inc.any (fun p => m p f) || dflt) && !(exc.any (fun p => m p f)))) := by
  unfold allows
  cases inc.any (fun p => m p f) <;> cases inc.isEmpty <;> cases dflt <;> rfl

theorem allows_spec {P : Type} (m : P → Bytes → Bool) (inc exc : List P) (dflt : Bool) (f : Bytes) :
    allows m inc exc dflt f = true ↔
      ((inc = [] ∨ ∃ p ∈ inc, m p f = true) ∧ ((∃ p ∈ inc, m p f = true) ∨ dflt = true) ∧ ∀ e ∈ exc, m e f = false) := by
  rw [allows_bool]
  simp only [Bool.and_eq_true, Bool.or_eq_true, List.any_eq_true, List.isEmpty_iff, Bool.not_eq_true',
    List.any_eq_false, Bool.not_eq_true]

/-- an excluded file is never allowed, whatever includes say -/
theorem excluded_never_allowed {P : Type} (m : P → Bytes → Bool) (inc exc : List P) (dflt : Bool) (f : Bytes)
    (e : P) (he : e ∈ exc) (hm : m e f = true) : allows m inc exc dflt f = false := by
  have hx : exc.any (fun p => m p f) = true := List.any_eq_true.mpr ⟨e, he, hm⟩
  rw [allows_bool, hx, Bool.not_true, Bool.and_false, Bool.and_false]

/-- content that is not a pointer is left alone -/
theorem non_pointer_untouched (recorded : Ptr) (st : Store) (b : Bytes) (e : Err) (h : dec b = .error e) :
    run recorded st (.file b) = some b :=
  run_file_of_not_willWrite (ne_true_of_eq_false (willWrite_file_error h))

/-- … in particular every file of 1024 bytes or more, however pointer-like it starts -/
theorem long_file_untouched (recorded : Ptr) (st : Store) (b : Bytes) (h : cut ≤ b.length) :
    run recorded st (.file b) = some b :=
  non_pointer_untouched recorded st b .notPtr (dec_of_long h)

/-- a file replaced by the pointer of ANOTHER object is left alone -/
theorem other_pointer_untouched (recorded : Ptr) (st : Store) (b : Bytes) (p : Ptr) (c : Bool)
    (hd : dec b = .ok (p, c)) (hne : p.oid ≠ recorded.oid) : run recorded st (.file b) = some b :=
  run_file_of_not_willWrite (mt (willWrite_file_ok hd).mp hne)

/-- a file truncated to zero bytes is left alone unless the recorded pointer is the empty pointer -/
theorem emptied_file_untouched (recorded : Ptr) (st : Store) (h : recorded.oid ≠ emptyOid) :
    run recorded st (.file []) = some [] :=
  other_pointer_untouched recorded st [] emptyPtr true dec_nil (Ne.symm h)

/-- **`pull`/`checkout` modify a working-tree file only if its current content decodes to a pointer
    with the recorded object id** — for EVERY byte string in the working tree, every recorded
    pointer and every state of local storage -/
theorem run_never_clobbers (recorded : Ptr) (st : Store) (b : Bytes)
    (h : run recorded st (.file b) ≠ some b) :
    ∃ p c, dec b = .ok (p, c) ∧ p.oid = recorded.oid :=
  match hd : dec b with
  | .error e => absurd (non_pointer_untouched recorded st b e hd) h
  | .ok (p, c) =>
    ⟨p, c, rfl, Decidable.of_not_not fun hne => h (other_pointer_untouched recorded st b p c hd hne)⟩

/-- an unreadable file is left alone … -/
theorem unreadable_untouched (recorded : Ptr) (st : Store) : run recorded st .unreadable = none :=
  rfl
/-- … and a file deleted in the index is not brought back -/
theorem deleted_in_index_not_restored (recorded : Ptr) (st : Store) : run recorded st (.absent true) = none :=
  rfl

/-- smudging into a named file (`git lfs checkout --to`, pull, checkout) writes the object's bytes whatever
    sits at that path — no file, the same bytes, other bytes of the same length, shorter, longer -/
theorem tofile_independent_of_what_is_there (recorded : Ptr) (st : Store) (content : Bytes) (cur : WFile)
    (h : st.get recorded.oid = some content) (hs : recorded.size ≠ 0) :
    smudgeToFile recorded st cur = content := by
  rw [smudgeToFile_eq fun _ => hs, h, Option.getD_some]

/-- a file that still is the recorded pointer (canonical text) becomes the object's bytes when the
    object is local … -/
theorem pointer_file_materialised (recorded : Ptr) (hv : Valid recorded) (st : Store) (content : Bytes)
    (hl : st.get recorded.oid = some content) : run recorded st (.file (enc recorded)) = some content := by
  rw [run_enc hv, hl, Option.getD_some]

/-- … and so does a missing file that the index does not record as deleted -/
theorem missing_file_restored (recorded : Ptr) (st : Store) (content : Bytes)
    (hl : st.get recorded.oid = some content) : run recorded st (.absent false) = some content := by
  rw [run_of_willWrite rfl, smudgeToFile_eq (cur := .absent false) nofun, hl, Option.getD_some]

/-- when the object is not local (excluded, skipped, fetch not run) the file stays a valid pointer
    to the same object: the canonical text, which decodes to the recorded pointer -/
theorem not_local_stays_pointer (recorded : Ptr) (hv : Valid recorded) (st : Store)
    (hl : st.get recorded.oid = none) :
    run recorded st (.file (enc recorded)) = some (enc recorded) ∧ dec (enc recorded) = .ok (recorded, true) := by
  rw [run_enc hv, hl, Option.getD_none]
  exact ⟨rfl, dec_enc hv⟩

/-- with an intact store (every object hashes to its name) what `run` writes for a local object
    hashes to the recorded id -/
theorem written_content_hashes_to_oid (H : Bytes → Bytes) (recorded : Ptr) (st : Store)
    (hint : ∀ o c, st.get o = some c → H c = o) (cur : WFile) (out : Bytes)
    (hw : willWrite recorded cur = true) (hl : (st.get recorded.oid).isSome) (hs : recorded.size ≠ 0)
    (hr : run recorded st cur = some out) : H out = recorded.oid := by
  obtain ⟨content, hc⟩ := Option.isSome_iff_exists.mp hl
  rw [run_of_willWrite hw, tofile_independent_of_what_is_there recorded st content cur hc hs] at hr
  cases hr
  exact hint _ _ hc

/-- every non-empty pointer of the scan is either requested from the transfer queue or already has
    a local object of the recorded size -/
theorem toFetch_complete (st : Store) (ptrs : List Ptr) (p : Ptr) (hp : p ∈ ptrs) (hs : p.size ≠ 0) :
    p ∈ toFetch storeSize st ptrs ∨ storeSize st p.oid = some p.size :=
  Decidable.or_iff_not_imp_right.mpr fun h => mem_toFetch.mpr ⟨hp, hs, h⟩

/-- nothing is requested that is already present with the recorded size, and nothing empty -/
theorem toFetch_minimal (st : Store) (ptrs : List Ptr) (p : Ptr) (hp : p ∈ toFetch storeSize st ptrs) :
    p ∈ ptrs ∧ p.size ≠ 0 ∧ storeSize st p.oid ≠ some p.size :=
  mem_toFetch.mp hp

/-- **fetch from an intact store**: if every requested object arrives hash-valid (what a successful
    transfer guarantees, C02) and the store only gains, then afterwards every non-empty pointer of
    the scan has a local object hashing to its id -/
theorem fetch_materialises (H : Bytes → Bytes) (st st' : Store) (ptrs : List Ptr)
    (hint : ∀ o c, st.get o = some c → H c = o)
    (hkeep : ∀ o c, st.get o = some c → st'.get o = some c)
    (hgot : ∀ p ∈ toFetch storeSize st ptrs, ∃ c, st'.get p.oid = some c ∧ H c = p.oid)
    (p : Ptr) (hp : p ∈ ptrs) (hs : p.size ≠ 0) : ∃ c, st'.get p.oid = some c ∧ H c = p.oid := by
  rcases toFetch_complete st ptrs p hp hs with h | h
  · exact hgot p h
  · obtain ⟨c, hg, _⟩ := Option.map_eq_some_iff.mp h
    exact ⟨c, hkeep _ _ hg, hint _ _ hg⟩

/-- non-vacuity: a user-edited file survives; a missing file is restored from the store -/
example : run samplePtr [(sampleOid, [1, 2, 3])] (.file [104, 105]) = some [104, 105] := by decide
example : run samplePtr [(sampleOid, [1, 2, 3])] (.absent false) = some [1, 2, 3] := by decide

/-! ### the include / exclude LISTS (lfs.fetchinclude, lfs.fetchexclude, -I, -X) -/

/-- a comma separated list means the patterns it spells: blanks before the list, after it and on either side
    of every comma change nothing, for every number of elements and every amount of padding -/
theorem list_elements_are_the_patterns_spelt (lead trail : PathList.Bytes) (es : List PathList.Padded) (last : PathList.Padded)
    (hlead : ∀ x ∈ lead, PathList.isSpace x = true) (htrail : ∀ x ∈ trail, PathList.isSpace x = true)
    (hok : ∀ e ∈ es ++ [last], e.Ok 44) (hfirst : ∀ f rest, es ++ [last] = f :: rest → f.pre = [])
    (hlast : last.post = []) :
    PathList.cleanPaths (lead ++ PathList.join 44 ((es ++ [last]).map PathList.Padded.text) ++ trail) 44
      = (es ++ [last]).map fun e => PathList.stripSlash e.pat :=
  PathList.cleanPaths_padded hlead htrail hok hfirst hlast

/-- a list of nothing but blanks selects nothing (it is not the pattern `.` or the empty pattern) -/
theorem blank_list_is_empty (pad : PathList.Bytes) (h : ∀ x ∈ pad, PathList.isSpace x = true) :
    PathList.cleanPaths pad 44 = [] := by
  simp [PathList.cleanPaths, PathList.trim_blank h]

/-- exactly one trailing slash of an element is dropped -/
theorem list_element_trailing_slash (p : PathList.Bytes) : PathList.stripSlash (p ++ [47]) = p :=
  PathList.stripSlash_once p

end C04
