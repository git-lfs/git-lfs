/-
C17 — Credential values cannot inject lines into the git-credential protocol.
-/
import LfsModel.Gen
import LfsModel.Creds

namespace C17
open Cr

/-- the exchange is refused exactly when some value contains LF or NUL, or CR under protection -/
theorem reject_iff (protect : Bool) (c : Creds) :
    buffer protect c = none ↔ ∃ kv ∈ pairs c, kv.2.contains 10 ∨ (protect = true ∧ kv.2.contains 13) ∨ kv.2.contains 0 :=
  Cr.reject_iff protect c

/-- otherwise the helper reads back the two capability lines and exactly the supplied pairs, in
    order — no line more, none less, none altered (keys are attribute names: no `=`, no LF) -/
theorem parse_buffer (protect : Bool) (c : Creds) (out : Bytes)
    (hk : ∀ kv ∈ pairs c, (61 : UInt8) ∉ kv.1 ∧ (10 : UInt8) ∉ kv.1)
    (h : buffer protect c = some out) :
    parse out = some ([99,97,112,97,98,105,108,105,116,121,91,93], [97,117,116,104,116,121,112,101])
              :: some ([99,97,112,97,98,105,108,105,116,121,91,93], [115,116,97,116,101])
              :: (pairs c).map some :=
  Cr.parse_buffer protect c out hk h

/-- the number of protocol lines is 2 + the number of supplied values: nothing can add a line -/
theorem line_count (protect : Bool) (c : Creds) (out : Bytes)
    (hk : ∀ kv ∈ pairs c, (61 : UInt8) ∉ kv.1 ∧ (10 : UInt8) ∉ kv.1)
    (h : buffer protect c = some out) : (parse out).length = 2 + (pairs c).length := by
  rw [parse_buffer protect c out hk h, List.length_cons, List.length_cons, List.length_map]
  exact Nat.add_comm _ 2

/-- protection is on unless configured otherwise (regenerated from creds/creds.go) -/
theorem default_protect_true : Gen.credProtectProtocolDefault = true := rfl

/-- the attribute names git-lfs itself uses as keys contain neither `=` nor LF -/
theorem input_keys_safe : ∀ k ∈ Gen.credInputKeys, (61 : UInt8) ∉ k ∧ (10 : UInt8) ∉ k := by decide

/-- protection follows the URL being authenticated, not the history of the shared helper: after any
    sequence of earlier exchanges on the same context (other hosts with protection switched off …),
    `GetCredentialHelper(url)` followed by a fill refuses exactly what `url`'s setting demands -/
theorem protection_follows_current_url (f0 : Bool) (hist : List CtxOp) (cfg : Option Bool) (c : Creds) :
    (ctxRun Gen.credProtectProtocolDefault f0 (hist ++ [.get cfg, .fill c])).getLast?
      = some (buffer (cfg.getD Gen.credProtectProtocolDefault) c) :=
  Cr.fill_after_get _ f0 hist cfg c

/-- … in particular a CR-bearing value is refused on a protected URL even right after an
    unprotected one was served on the same context -/
theorem cr_refused_after_unprotected_url (c0 c : Creds) (h : ∃ kv ∈ pairs c, kv.2.contains 13) :
    (ctxRun Gen.credProtectProtocolDefault true [.get (some false), .fill c0, .get none, .fill c]).getLast? = some none := by
  obtain ⟨kv, hm, hc⟩ := h
  have hrej : buffer true c = none := (Cr.reject_iff true c).mpr ⟨kv, hm, .inr (.inl ⟨rfl, hc⟩)⟩
  rw [← hrej]
  exact protection_follows_current_url true [.get (some false), .fill c0] none c

/-- non-vacuity: a clean two-key map is accepted; the same map with an LF in the host is refused -/
example : (buffer true [([104], [[97, 98]]), ([112], [[120]])]).isSome = true := by decide
example : buffer true [([104], [[97, 10, 98]])] = none := by decide

/-- tie to creds/creds.go: URL-scoped credential settings (protectProtocol among them) are looked up with scheme, host and the ESCAPED path of the URL being served -/
theorem gen_credential_settings_url :
    Gen.credConfigURL =
      [
       -- "%s://%s%s", u.Scheme, u.Host, u.EscapedPath() | 
       [34, 37, 115, 58, 47, 47, 37, 115, 37, 115, 34, 44, 32, 117, 46, 83, 99, 104, 101, 109, 101, 44, 32, 117, 46, 72, 111, 115, 116, 44, 32, 117, 46, 69, 115, 99, 97, 112, 101, 100, 80, 97, 116, 104, 40, 41, 32, 124, 32]
      ] := by rfl

end C17
