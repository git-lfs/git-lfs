/-
C03 — A successful push leaves every referenced object on the server.
-/
import LfsModel.PushModel
import LfsModel.PrePush
import LfsModel.PushReport
import LfsModel.Gen

namespace C03
open Push PushM

/-- THE SET-LEVEL ARGUMENT.  If (hE) every commit excluded from the scan is reachable from the
    remote's refs as they are now, (hL) rev-list lists every object of the new commits that no
    excluded commit references, (hU) every listed object is on the server after exit 0, and (hS) the
    server only gains objects, then the server invariant extends to the pushed tip. -/
theorem push_preserves_server_inv (r : Repo) (R E : List Commit) (L : Commit)
    (S S' : Oid → Prop) (listed : Oid → Prop)
    (hinv : ServerInv r R S) (hE : ∀ e ∈ E, Reach r R e) (hL : RevListLower r L E listed)
    (hU : ∀ o, listed o → S' o) (hS : ∀ o, S o → S' o) : ServerInv r (L :: R) S' :=
  Push.push_preserves_server_inv r R E L S S' listed hinv hE hL hU hS

/-- hE, derived from the code, PARTIAL: with a fresh cache (every cached remote-tracking ref is on the
    remote at the cached sha) every excluded sha is one of the remote's current refs. -/
theorem exclude_only_remote_commits_partial (cached actual : List Ref) (hf : Fresh cached actual) :
    ∀ e ∈ excluded cached actual, e ∈ actual.map (·.2) := by
  intro e he
  rw [excluded] at he
  -- all cached refs, or the verified ones
  split at he
  · obtain ⟨c, hc, rfl⟩ := List.mem_map.mp he
    exact List.mem_map.mpr ⟨c, hf c hc, rfl⟩
  · obtain ⟨c, hc, rfl⟩ := List.mem_map.mp he
    exact List.mem_map.mpr ⟨c, hf c (List.mem_filter.mp hc).1, rfl⟩

/-! the full statement is FALSE of the code (known findings): -/
/-- D23 — the remote force-moved branch `b` (cached sha 7, now 9): sha 7 is still excluded -/
theorem stale_tracking_ref_counterexample :
    7 ∈ excluded [("b", 7)] [("b", 9)] ∧ 7 ∉ ([("b", 9)] : List Ref).map (·.2) := by decide
/-- D24 — the remote's only branch was deleted: the verified list is empty and ALL cached refs are excluded -/
theorem empty_verified_list_counterexample :
    7 ∈ excluded [("b", 7)] [] ∧ 7 ∉ ([] : List Ref).map (·.2) := by decide

/-- the sha Git reports for the remote side of an update is excluded only when it differs from the local one -/
theorem update_excludes_are_remote_shas (updates : List (Nat × Nat)) :
    ∀ e ∈ updateExcludes updates, ∃ u ∈ updates, u.2 = e ∧ u.1 ≠ u.2 := by
  intro e he
  obtain ⟨u, hu, rfl⟩ := List.mem_map.mp he
  obtain ⟨hu, hne⟩ := List.mem_filter.mp hu
  exact ⟨u, hu, rfl, bne_iff_ne.mp hne⟩

/-- `git lfs push <remote> <ref>...` reports every named ref with its own sha as the remote side (no upstream is
    known): NOTHING is excluded on account of the other refs named beside it, so the history that nested refs
    share is scanned for each of them (the trial change seeded/C03-lfs-push-named-refs-exclude-each-other excluded it
    for all of them) -/
theorem named_refs_exclude_nothing (updates : List (Nat × Nat)) (h : ∀ u ∈ updates, u.2 = u.1) :
    updateExcludes updates = [] := by
  rw [updateExcludes, List.map_eq_nil_iff, List.filter_eq_nil_iff]
  intro u hu
  simp [h u hu]

/-- every commit reachable from a pushed ref and from no excluded commit is scanned for that ref — for every
    number of updates in one push, whatever the other updates are -/
theorem every_update_scans_its_own_range (r : Repo) (updates : List (Nat × Nat)) (u : Nat × Nat) (_hu : u ∈ updates)
    (c : Commit) (hc : Reach r [u.1] c) (hne : ¬ Reach r (updateExcludes updates) c) :
    Reach r [u.1] c ∧ ∀ e ∈ updateExcludes updates, ¬ Reach r [e] c := by
  refine ⟨hc, fun e he hr => hne ?_⟩
  exact reach_mono r (fun x hx => Reach.tip (List.mem_singleton.mp hx ▸ he)) hr

/-! ties to commands/uploader.go as it is in /repo now -/
/-- uploadForRefUpdates appends exactly the remote side of an update to `exclude`, and only when it differs from
    the local side; uploadRangeOrAll hands that very list to the scanner together with the local side -/
theorem gen_upload_exclusion :
    Gen.uploadExcludeAppended = [[114, 101, 109, 111, 116, 101, 82, 101, 102, 83, 104, 97]] ∧   -- remoteRefSha
    Gen.uploadExcludeConds = [[117, 112, 100, 97, 116, 101, 46, 76, 111, 99, 97, 108, 82, 101, 102, 67, 111, 109, 109, 105, 116, 105, 115, 104, 40, 41, 32, 33, 61, 32, 114, 101, 109, 111, 116, 101, 82, 101, 102, 83, 104, 97]] ∧
      -- update.LocalRefCommitish() != remoteRefSha
    Gen.uploadScanArgs = [[117, 112, 100, 97, 116, 101, 46, 76, 111, 99, 97, 108, 82, 101, 102, 67, 111, 109, 109, 105, 116, 105, 115, 104, 40, 41],
      [101, 120, 99, 108, 117, 100, 101], [99, 98]] := ⟨rfl, rfl, rfl⟩
      -- update.LocalRefCommitish(), exclude, cb

/-- a pointer is left out of the upload only if it is the empty object or already handled -/
theorem upload_skips_only_empty_and_seen (seen : List Nat) (oid size : Nat) (h : enqueue seen oid size = false) :
    size = 0 ∨ oid ∈ seen := by
  unfold enqueue at h
  simp only [Bool.and_eq_false_iff, bne_eq_false_iff_eq, Bool.not_eq_false'] at h
  rcases h with h | h
  · exact Or.inl h
  · exact Or.inr (by simpa using h)

/-- non-vacuity: a fresh cache with two branches -/
example : Fresh [("a", 1), ("b", 2)] [("b", 2), ("a", 1), ("c", 3)] := by
  unfold Fresh
  decide

/-! ### which refs of a push the hook scans at all (commands/command_pre_push.go: prePushRefs) -/

/-- the hook's lines stand each for itself: what one part of the input yields does not depend on
    what precedes or follows it (a deletion line cannot end the parsing) -/
theorem prepush_lines_independent (a b : List PrePush.Bytes) :
    PrePush.parse (a ++ b) = PrePush.parse a ++ PrePush.parse b := PrePush.parse_append a b

/-- EVERY created or updated ref of the push is scanned: the line Git writes for it (four
    blank-free fields, a non-zero local id), wherever it stands among the other lines —
    deletions, blank lines, anything — yields exactly its ref update, in line order. -/
theorem prepush_every_update_scanned (pre post : List PrePush.Bytes) (u : PrePush.Upd)
    (b : UInt8) (l' : PrePush.Bytes) (e : UInt8) (r' : PrePush.Bytes)
    (hl : u.lref = b :: l') (hr : u.rsha = r' ++ [e])
    (h1 : PrePush.NoSp u.lref) (h2 : PrePush.NoSp u.lsha) (h3 : PrePush.NoSp u.rref) (h4 : PrePush.NoSp u.rsha)
    (hz : PrePush.zeroId u.lsha = false) :
    PrePush.parse (pre ++ PrePush.line u :: post) = PrePush.parse pre ++ u :: PrePush.parse post :=
  PrePush.parse_order pre post _ u (PrePush.parseLine_line u b l' e r' hl hr h1 h2 h3 h4 hz)

/-- a deleted ref contributes nothing and takes nothing away -/
theorem prepush_deletion_skipped (pre post : List PrePush.Bytes) (l rref rsha zero : PrePush.Bytes)
    (b : UInt8) (l' : PrePush.Bytes) (e : UInt8) (r' : PrePush.Bytes)
    (hl : l = b :: l') (hr : rsha = r' ++ [e])
    (h1 : PrePush.NoSp l) (h2 : PrePush.NoSp zero) (h3 : PrePush.NoSp rref) (h4 : PrePush.NoSp rsha)
    (hz : PrePush.zeroId zero = true) :
    PrePush.parse (pre ++ PrePush.line ⟨l, zero, rref, rsha⟩ :: post) = PrePush.parse pre ++ PrePush.parse post := by
  rw [PrePush.parse_append, PrePush.parse_cons_skip _ _
    (PrePush.parseLine_delete l rref rsha zero b l' e r' hl hr h1 h2 h3 h4 hz)]

/-- non-vacuity: `git push origin :a m` — the deletion line first, then the update -/
example : PrePush.parse
    [PrePush.line ⟨[40, 100, 41], List.replicate 40 48, [97], [49, 49]⟩,
     [], PrePush.line ⟨[109], [50, 50], [109], [51, 51]⟩]
    = [⟨[109], [50, 50], [109], [51, 51]⟩] := by decide

/-! ### how the hook ends: the refs are updated only when nothing but an explicitly allowed absence went wrong -/

/-- exit 0 exactly when: objects are missing only with the allowance, no other upload error, no
    verified foreign lock -/
theorem push_succeeds_iff (o : PushReport.Outcome) :
    PushReport.ok o = true ↔
      ((o.missingOrCorrupt = true → o.allowIncomplete = true) ∧ o.otherErrors = false ∧
       (o.unownedLocks = true → o.verifyLocks = false)) := by
  simp only [PushReport.ok, Bool.not_eq_true', Bool.or_eq_false_iff, Bool.and_eq_false_imp,
    Bool.not_eq_false', and_assoc]

/-- lfs.allowincompletepush excuses absent objects and nothing else: any other upload error fails the
    push whatever the allowance says -/
theorem allowance_does_not_excuse_other_errors (o : PushReport.Outcome) (h : o.otherErrors = true) :
    PushReport.ok o = false :=
  Bool.eq_false_iff.mpr fun hok => by simp [((push_succeeds_iff o).mp hok).2.1] at h

/-- without the allowance a missing object fails the push -/
theorem missing_object_fails_without_allowance (o : PushReport.Outcome) (hm : o.missingOrCorrupt = true)
    (ha : o.allowIncomplete = false) : PushReport.ok o = false :=
  Bool.eq_false_iff.mpr fun hok => by simp [((push_succeeds_iff o).mp hok).1 hm] at ha

end C03
