/-
C20 — install / update / uninstall never destroy user hooks or filter settings.
`Gen.hook*` are the templates of lfs/hook.go as they are in /repo now; `Gen.hookReadWindow` is the read limit of
matchesCurrent; `Gen.filter*` the tables of lfs/attribute.go.
-/
import LfsModel.Gen
import LfsModel.HooksProofs

namespace C20
open Hk

def limit : Nat := Gen.hookReadWindow

/-- the four hook specifications built from the regenerated tables -/
def specs : List HookSpec := (Gen.hookCurrent.zip Gen.hookUpgradeables).map fun p => ⟨p.1, p.2⟩

/-- a hook is one that git-lfs generated when its WHOLE content, after undent and trim, is the
    current or a historical template -/
def LfsGenerated (h : HookSpec) (f : Bytes) : Prop :=
  f.length ≤ limit ∧ (normalize f = h.current ∨ normalize f ∈ h.upgradeables)

/-- a template is well-behaved when what `write` puts on disk is recognised as current -/
def WellBehaved (h : HookSpec) : Prop := matchFile limit h (written h) = .current

/-- the implicit hook installation of other commands never forces: every `installHooks(…)` call in
    package commands passes the literal `false` (the entries end in ":false"), except the one in
    command_update.go, which hands on `updateForce`, the --force flag of `git lfs update` -/
theorem implicit_installs_never_force :
    Gen.installHooksCalls.filter (fun c => !(c.drop (c.length - 6) == [58, 102, 97, 108, 115, 101])) =
      [[99, 111, 109, 109, 97, 110, 100, 95, 117, 112, 100, 97, 116, 101, 46, 103, 111, 58,   -- command_update.go:
        117, 112, 100, 97, 116, 101, 70, 111, 114, 99, 101]] := by                             -- updateForce
  decide

/-! ### facts about the regenerated templates
Two passes over some 5 kB of template text, evaluated by the kernel alone: the elaborator's own reduction of
them runs into its recursion limit. -/

/-- every current or historical template is a shell script that invokes `git lfs` — a user-like
    string slipped into the upgradeable list breaks this -/
theorem templates_are_lfs_scripts : ∀ h ∈ specs, ∀ t ∈ h.current :: h.upgradeables,
    ([35, 33, 47, 98, 105, 110, 47, 115, 104, 10] : Bytes).isPrefixOf t = true ∧      -- "#!/bin/sh\n"
    Lfs.isInfixOf [10, 103, 105, 116, 32, 108, 102, 115, 32] t = true := by decide +kernel     -- "\ngit lfs "

/-- every template is tidy and, with the newline `write` appends, fits the read window -/
theorem templates_tidy : ∀ h ∈ specs, ∀ t ∈ h.current :: h.upgradeables,
    (tidy true t && decide (t.length < limit)) = true := by decide +kernel

/-- hence what `write` makes of a template is within the window and normalises to the template -/
theorem written_template {h : HookSpec} (hh : h ∈ specs) {t : Bytes} (ht : t ∈ h.current :: h.upgradeables) :
    (t ++ [10]).length ≤ limit ∧ normalize (t ++ [10]) = t := by
  obtain ⟨htidy, hlen⟩ := Bool.and_eq_true_iff.mp (templates_tidy h hh t ht)
  -- the first byte is the `#` of "#!/bin/sh"
  have hc : t.head? = some 35 := by
    obtain ⟨r, rfl⟩ := List.isPrefixOf_iff_prefix.mp (templates_are_lfs_scripts h hh t ht).1
    rfl
  exact ⟨by rw [List.length_append]; exact of_decide_eq_true hlen, normalize_of_tidy hc (by decide) (by decide) htidy⟩

theorem templates_are_fixpoints : ∀ h ∈ specs, matchFile limit h (written h) = .current := fun _ hh =>
  matchFile_eq_current.mpr (written_template hh List.mem_cons_self)

/-- a historical template is recognised because it is in the list it is looked up in -/
theorem upgradeables_recognised : ∀ h ∈ specs, ∀ u ∈ h.upgradeables, matchFile limit h (u ++ [10]) = .upgradable ∨ u = h.current := by
  intro h hh u hu
  obtain ⟨hl, hn⟩ := written_template hh (List.mem_cons_of_mem _ hu)
  by_cases hc : u = h.current
  · exact .inr hc
  · exact .inl (matchFile_eq_upgradable.mpr ⟨hl, hn.symm ▸ hc, .inr (hn.symm ▸ hu)⟩)

theorem four_hooks : specs.length = 4 ∧ Gen.hookNames.length = 4 := ⟨rfl, rfl⟩

/-- USER HOOK UNTOUCHED: without --force, a hook file that git-lfs did not generate (and that is not
    blank) is byte-identical after install/update and after uninstall, and the conflict is reported. -/
theorem user_hook_untouched (h : HookSpec) (f : Bytes) (hf : matchFile limit h f = .foreign) :
    install limit h false (some f) = (some f, true) ∧ uninstall limit h (some f) = (some f, true) := by
  simp [install, uninstall, hf]

/-- a file longer than the read window is never taken for one of ours (this is what the D8 repair established) -/
theorem long_file_is_foreign (h : HookSpec) (f : Bytes) (hl : limit < f.length) : matchFile limit h f = .foreign :=
  matchFile_eq_foreign.mpr (.inl hl)

/-- a file within the window that is not generated and not blank is foreign -/
theorem not_generated_is_foreign (h : HookSpec) (f : Bytes) (hg : ¬ LfsGenerated h f) (hb : normalize f ≠ []) :
    matchFile limit h f = .foreign :=
  matchFile_eq_foreign.mpr <| (Nat.lt_or_ge limit f.length).imp_right fun hl =>
    ⟨fun e => hg ⟨hl, .inl e⟩, hb, fun e => hg ⟨hl, .inr e⟩⟩

/-- conversely, only generated or blank files are ever overwritten or removed without --force -/
theorem overwritten_only_if_generated (h : HookSpec) (f : Bytes)
    (hch : (install limit h false (some f)).1 ≠ some f ∨ (uninstall limit h (some f)).1 ≠ some f) :
    LfsGenerated h f ∨ normalize f = [] := by
  cases hm : matchFile limit h f with
  | current =>
    obtain ⟨hl, hn⟩ := matchFile_eq_current.mp hm
    exact .inl ⟨hl, .inl hn⟩
  | upgradable =>
    obtain ⟨hl, _, hn | hn⟩ := matchFile_eq_upgradable.mp hm
    · exact .inr hn
    · exact .inl ⟨hl, .inr hn⟩
  | foreign =>
    obtain ⟨h1, h2⟩ := user_hook_untouched h f hm
    simp [h1, h2] at hch

/-- INSTALL TWICE = INSTALL ONCE (per hook), for every prior state of the hook file -/
theorem install_idempotent (h : HookSpec) (hw : WellBehaved h) (force : Bool) (file : Option Bytes) :
    (install limit h false (install limit h force file).1).1 = (install limit h force file).1 := by
  unfold WellBehaved at hw
  cases file with
  | none => simp [install, hw]
  | some f =>
    cases force with
    | true => simp [install, hw]
    | false => cases hm : matchFile limit h f <;> simp [install, hm, hw]

/-- UNINSTALL AFTER INSTALL restores a hook that was absent, and leaves a user-owned hook as it was -/
theorem uninstall_after_install_absent (h : HookSpec) (hw : WellBehaved h) :
    (uninstall limit h (install limit h false none).1).1 = none := by
  unfold WellBehaved at hw
  simp only [install, uninstall, hw]

theorem uninstall_after_install_foreign (h : HookSpec) (f : Bytes) (hf : matchFile limit h f = .foreign) :
    (uninstall limit h (install limit h false (some f)).1).1 = some f := by
  simp [install, uninstall, hf]

/-- UNINSTALL LEAVES NO HOOK OF ITS OWN BEHIND: when none of the hook files is user-owned, `git lfs uninstall`
    ends without an error and every hook file is gone — whichever of them were absent, current, blank or
    historical before, in whatever order, for every number of hooks (D76: before the repair an absent file stopped the loop) -/
theorem uninstall_removes_every_own_hook (hooks : List (HookSpec × Option Bytes))
    (hown : ∀ hf ∈ hooks, ∀ f, hf.2 = some f → matchFile limit hf.1 f ≠ .foreign) :
    uninstallAll limit hooks = (hooks.map fun _ => none, false) := by
  induction hooks with
  | nil => rfl
  | cons hf rest ih =>
    rw [List.forall_mem_cons] at hown
    simp [uninstallAll, uninstall_of_ne_foreign hown.1, ih hown.2]

/-- filter.lfs.*: without --force a value that is neither empty nor listed upgradeable is never
    replaced, and a differing one is reported -/
theorem attr_no_overwrite_without_force (current value : Bytes) (ups : List Bytes)
    (hne : current.isEmpty = false) (hnu : ups.contains current = false) :
    (setAttr false current value ups).1 = current ∧ ((setAttr false current value ups).2 = true ↔ current ≠ value) := by
  unfold setAttr
  simp only [Bool.false_eq_true, hne, hnu, or_self, if_false]
  by_cases he : current = value <;> simp [he]

theorem attr_install_idempotent (force : Bool) (current value : Bytes) (ups : List Bytes) :
    (setAttr false (setAttr force current value ups).1 value ups).1 = (setAttr force current value ups).1 := by
  simp only [setAttr_fst]
  split
  · exact ite_self _
  · next h => exact if_neg fun h' => h (.inr (h'.resolve_left Bool.false_ne_true))

/-- the regenerated current values are not themselves "upgradeable" (else install would loop between two values) -/
theorem filter_values_stable : ∀ p ∈ Gen.filterValues.zip Gen.filterUpgradeables, p.2.contains p.1 = false := by decide

/-- non-vacuity: a 1100-byte user script whose first 1024 bytes are blank is foreign (the D8 witness) -/
example : matchFile limit ⟨[104], []⟩ (List.replicate 1100 32 ++ [114, 109]) = .foreign := by
  apply long_file_is_foreign
  rw [List.length_append, List.length_replicate]
  decide

/-! tie to lfs/attribute.go as it is in /repo now -/
/-- Attribute.Install does two things with its receiver: it normalises a key and sets it (`set` refuses a differing
    value without --force).  It never calls Uninstall or anything else that could remove what the user had set
    (the trial change seeded/C20-rollback-removes-the-section added a "rollback" that removed the whole section) -/
theorem gen_install_only_sets_keys :
    Gen.attributeInstallCalls =
      [
       -- a.normalizeKey: k | 
       [97, 46, 110, 111, 114, 109, 97, 108, 105, 122, 101, 75, 101, 121, 58, 32, 107, 32, 124, 32],
       -- a.set: opt.GitConfig, key, v, upgradeables, opt | 
       [97, 46, 115, 101, 116, 58, 32, 111, 112, 116, 46, 71, 105, 116, 67, 111, 110, 102, 105, 103, 44, 32, 107, 101, 121, 44, 32, 118, 44, 32, 117, 112, 103, 114, 97, 100, 101, 97, 98, 108, 101, 115, 44, 32, 111, 112, 116, 32, 124, 32]
      ]
      := by rfl

end C20
