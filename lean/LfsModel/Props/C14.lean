/-
C14 — filter-process speaks valid protocol, equals the one-shot filters, delays complete.
-/
import LfsModel.SmudgeSkip
import LfsModel.Gen
import LfsModel.FilterProcessProofs
import LfsModel.FilterProofs
import LfsModel.Pkt

namespace C14
open FP

/-! ### ties to commands/command_filter_process.go and the vendored pktline module -/
theorem gen_smudge_capacity : Gen.smudgeFilterBufferCapacity = FP.maxData := rfl
theorem gen_clean_capacity_ok : 0 < Gen.cleanFilterBufferCapacity ∧ Gen.cleanFilterBufferCapacity ≤ FP.maxData := by decide
theorem gen_max_packet : Gen.pktlineMaxPacketLength = FP.maxData := rfl

/-- pkt-line framing round trip: every well-formed packet list the writer frames is recovered by the reader -/
theorem pkt_roundtrip (ps : List Pkt) (h : WF ps) : decode (encode ps).length (encode ps) = some ps :=
  decode_encode ps _ (fun p hp d hd => (h p hp d hd).2) (Nat.le_refl _)

/-- the payload reader is independent of how Git packetised the payload: a read of n bytes returns
    the first n bytes of the payload (vendored PktlineReader, Pkt.lean) -/
theorem payload_packetisation_independent (r : Pkt.Reader) (n : Nat) (hn : 0 < n) (he : r.eof = false) :
    (r.read n).1 = r.payload.take n := (Pkt.read_spec r n hn he).1

/-- every data packet of an answer (status lines and content packets, in the order `Resp.render` defines) is non-empty
    and of at most 65516 bytes, with the writer capacity of the smudge side … -/
theorem response_wellformed_smudge (r : Resp) : WF (r.render Gen.smudgeFilterBufferCapacity) :=
  render_wf _ (by decide) (by decide) r
/-- … and with that of the clean side -/
theorem response_wellformed_clean (r : Resp) : WF (r.render Gen.cleanFilterBufferCapacity) :=
  render_wf _ (by decide) (by decide) r

/-- the content packets carry exactly the content, whatever its length -/
theorem content_packets_exact (cap : Nat) (hc : 0 < cap) (d : Bytes) :
    (chunk cap (d.length + 1) d).flatten = d := chunk_flatten cap _ d hc (Nat.lt_succ_self _)

/-- the content of a `clean` answer IS the one-shot clean filter's output for the same bytes, for
    every packetisation (stream) of the payload -/
theorem clean_content_eq_oneshot (H : Bytes → Bytes) (s t : LfsA.Stream) (st : Flt.Store) (h : s.data = t.data) :
    (answerClean H s st).1.content = (Flt.clean H t st).1.out := by
  rw [answerClean, Flt.clean_eq_spec, Flt.clean_eq_spec, h]

/-- a non-delayed `smudge` answer of a non-pointer is the payload itself, for every packetisation -/
theorem smudge_nonpointer_content (cd se : Bool) (wh : Where) (obj : Bytes) (s : LfsA.Stream) {e}
    (hp : Lfs.dec s.data = .error e) :
    answerSmudge cd se wh obj s = some { status := .success, content := s.data, final := some .success } := by
  rw [answerSmudge, Flt.smudge_eq_spec, Flt.smudgeSpec, hp]

/-- a blob is delayed only when delay was offered and the object is not local -/
theorem delayed_only_if_offered (cd se : Bool) (wh : Where) (obj : Bytes) (s : LfsA.Stream) (r : Resp)
    (h : answerSmudge cd se wh obj s = some r) (hd : r.status = .delayed) : cd = true ∧ wh ≠ .local := by
  rw [answerSmudge] at h
  split at h
  · cases h; cases hd
  · by_cases hw : wh = .local
    · rw [if_pos hw] at h; cases h; cases hd
    · cases cd with
      | true => exact ⟨rfl, hw⟩
      | false =>
        -- without can-delay every answer is a `success`, or the process exits
        rw [if_neg hw, if_neg Bool.false_ne_true] at h
        cases wh <;> cases se <;> cases h <;> cases hd

/-- DELAY ROUNDS (relative to the C06 contract: the queue hands over each delayed path exactly once,
    in some order `q`): whatever the schedule `ks`, the announced lists, concatenated, are exactly
    `q` — so each delayed blob is announced exactly once -/
theorem delayed_announced_exactly_once (ks : List Nat) (q : List String) :
    (announce ks q).flatten = q := by
  obtain ⟨rounds, heq, hflat, -⟩ := announce_eq ks q
  rw [heq, List.flatten_concat, List.append_nil, hflat]
/-- the last announced list is empty -/
theorem available_list_becomes_empty (ks : List Nat) (q : List String) :
    (announce ks q).getLast? = some [] := by
  obtain ⟨rounds, heq, -⟩ := announce_eq ks q
  rw [heq, List.getLast?_concat]
/-- every round but the last announces something -/
theorem rounds_make_progress (ks : List Nat) (q : List String) :
    ∀ r ∈ (announce ks q).dropLast, r ≠ [] := by
  obtain ⟨rounds, heq, -, hne⟩ := announce_eq ks q
  rwa [heq, List.dropLast_concat]

/-- non-vacuity: three delayed paths, two of them ready at the first call -/
example : announce [1, 5] ["a", "b", "c"] = [["a", "b"], ["c"], []] := rfl

/-- a file of the wrong size at the object's path changes nothing: the request is answered as if the
    path were empty (delayed when that is offered, downloaded otherwise) — the repaired defect D48 -/
theorem wrong_size_file_is_not_the_object (cd se : Bool) (obj : Bytes) (s : LfsA.Stream) :
    answerSmudge cd se .stale obj s = answerSmudge cd se .server obj s := by
  rw [answerSmudge, answerSmudge]
  split <;> simp

/-- tie to commands/command_filter_process.go: a pointer is remembered under its path — and thereby announced by list_available_blobs — only for a smudge that could be delayed AND was delayed -/
theorem gen_pointer_remembered_only_when_delayed :
    Gen.filterDelayedPointers =
      [
       -- ptr | case "smudge" && req.Header["can-delay"] == "1" && delayed
       [112, 116, 114, 32, 124, 32, 99, 97, 115, 101, 32, 34, 115, 109, 117, 100, 103, 101, 34, 32, 38, 38, 32, 114, 101, 113, 46, 72, 101, 97, 100, 101, 114, 91, 34, 99, 97, 110, 45, 100, 101, 108, 97, 121, 34, 93, 32, 61, 61, 32, 34, 49, 34, 32, 38, 38, 32, 100, 101, 108, 97, 121, 101, 100]
      ] := by rfl

/-! ### "the content it returns equals what the one-shot smudge filter returns" — skipped and excluded paths -/

/-- a smudge with can-delay=1 is answered like the one-shot smudge of the same pointer and path, whether the path is
    wanted (not skipped, allowed by the fetch filters) or not, whether the object is local or not -/
theorem delayed_smudge_answers_like_one_shot (wanted isLocal : Bool) :
    SmudgeSkip.delayed wanted isLocal = SmudgeSkip.oneShot wanted isLocal := SmudgeSkip.delayed_eq_oneShot wanted isLocal

/-- a blob is delayed exactly when it is wanted and its object is not local -/
theorem delayed_exactly_when_wanted_and_missing (wanted isLocal : Bool) :
    SmudgeSkip.delayed wanted isLocal = .download ↔ (wanted = true ∧ isLocal = false) := SmudgeSkip.delayed_iff wanted isLocal

end C14
