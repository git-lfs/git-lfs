/-
C05 — Prune never deletes an object that is still needed or not yet pushed.
-/
import LfsModel.PruneProofs
import LfsModel.LogScan
import LfsModel.PtrRound

namespace C05
open Pr

/-- nothing a retention task named is ever deleted — whatever the flags, the local objects, the
    reachable set and the server's answers -/
theorem retained_never_deleted (f : Flags) (localObjs retained reachable verified : List Oid) (o : Oid)
    (hr : o ∈ retained) : o ∉ (prune f localObjs retained reachable verified).deleted :=
  fun hd => (mem_candidates.mp (candidates_of_mem_deleted hd)).2 hr

/-- only local objects are deleted -/
theorem deleted_are_local (f : Flags) (localObjs retained reachable verified : List Oid) (o : Oid)
    (hd : o ∈ (prune f localObjs retained reachable verified).deleted) : o ∈ localObjs :=
  (mem_candidates.mp (candidates_of_mem_deleted hd)).1

/-- `--dry-run` deletes nothing -/
theorem dry_run_deletes_nothing (f : Flags) (hd : f.dryRun = true) (localObjs retained reachable verified : List Oid) :
    (prune f localObjs retained reachable verified).deleted = [] := by
  simp [prune, hd]

/-- with remote verification, a deleted object was verified on the remote, or (without
    --verify-unreachable) is not reachable from any ref -/
theorem verify_remote_sound (f : Flags) (hv : f.verifyRemote = true) (localObjs retained reachable verified : List Oid) (o : Oid)
    (hd : o ∈ (prune f localObjs retained reachable verified).deleted) :
    o ∈ verified ∨ (f.verifyUnreachable = false ∧ o ∉ reachable) :=
  (mem_deleted.mp hd).2.2.2 hv

/-- without `--when-unverified=continue`, one reachable candidate missing on the remote stops prune
    before anything is deleted -/
theorem unverified_halts (f : Flags) (hv : f.verifyRemote = true) (hc : f.continueWhenUnverified = false)
    (localObjs retained reachable verified : List Oid) (o : Oid)
    (hl : o ∈ localObjs) (hnr : o ∉ retained) (hre : o ∈ reachable) (hnv : o ∉ verified) :
    prune f localObjs retained reachable verified = { deleted := [], halted := true } :=
  prune_of_halts <| halts_iff.mpr
    ⟨hv, hc, o, mem_verifySplit_snd.mpr ⟨mem_candidates.mpr ⟨hl, hnr⟩, hnv, .inr hre⟩⟩

/-- window boundaries are inclusive: a tip exactly `refsDays + offsetDays` days old is still recent,
    one second older is not -/
theorem ref_window_boundary (now : Int) (d o : Nat) (hd : d ≠ 0) :
    refIsRecent now (now - ((d + o : Nat) : Int) * 86400) d o = true ∧
    refIsRecent now (now - ((d + o : Nat) : Int) * 86400 - 1) d o = false := by
  unfold refIsRecent
  generalize now - ((d + o : Nat) : Int) * 86400 = start
  rw [bne_iff_ne.mpr hd, Bool.true_and, Bool.true_and, decide_eq_true_eq, decide_eq_false_iff_not]
  exact ⟨Int.le_refl start, by omega⟩
/-- zero days switches the window off -/
theorem zero_days_switches_off (now tip : Int) (o : Nat) : refIsRecent now tip 0 o = false ∧ commitIsRecent now tip 0 o = false :=
  ⟨rfl, rfl⟩

/-- the recent-commits window belongs to the ref: a previous version replaced by a commit inside the
    window of ANY retained ref (HEAD or recent) is retained, whatever the tips of the other refs are —
    in particular when HEAD is much younger and its own window does not reach back that far -/
theorem recent_commit_window_is_per_ref (now : Int) (refsDays commitsDays offsetDays : Nat) (refs : List RefT)
    (r : RefT) (c : Int × List Oid) (o : Oid)
    (hr : r ∈ refs) (hrec : r.isHead = true ∨ refIsRecent now r.tip refsDays offsetDays = true)
    (hc : c ∈ r.commits) (hwin : commitIsRecent r.tip c.1 commitsDays offsetDays = true) (ho : o ∈ c.2) :
    o ∈ retainedRecent now refsDays commitsDays offsetDays refs :=
  mem_retainedRecent.mpr ⟨r, hr, hrec, c, hc, hwin, ho⟩

/-- … and nothing else comes from these tasks: every retained id is a previous version replaced inside
    the window of a retained ref -/
theorem recent_retained_only_from_windows (now : Int) (refsDays commitsDays offsetDays : Nat) (refs : List RefT) (o : Oid)
    (h : o ∈ retainedRecent now refsDays commitsDays offsetDays refs) :
    ∃ r ∈ refs, (r.isHead = true ∨ refIsRecent now r.tip refsDays offsetDays = true) ∧
      ∃ c ∈ r.commits, commitIsRecent r.tip c.1 commitsDays offsetDays = true ∧ o ∈ c.2 :=
  mem_retainedRecent.mp h

/-- non-vacuity (the shape of the trial change seeded/C05-recent-commit-window-anchored-at-head): HEAD's tip is
    1 hour old, a feature ref's tip 8 days; with 3 commit-days the version replaced 10 days ago on `feature` is kept
    although HEAD's own window (3 days before HEAD's tip) does not reach it -/
example : retainedRecent 1000000 7 3 0
    [⟨true, 1000000 - 3600, []⟩, ⟨false, 1000000 - 5 * 86400, [(1000000 - 7 * 86400, [42])]⟩] = [42] := by decide

/-! ### the `git log -p` scanner (unpushed, stashed and recent-commit retention) -/
section logscan
open LogScan Lfs

/-- one file section of a log: its header and the lines up to the next header -/
structure Sec where
  a : Bytes
  b : Bytes
  body : List Kind

def render (secs : List Sec) : List Kind := secs.flatMap fun s => Kind.file s.a s.b :: s.body

def secResult (dir : UInt8) (s : Sec) : Option (Bytes × Ptr) :=
  finish { name := setName (if dir == 43 then s.b else s.a), data := sectionData dir s.body }

theorem scanFrom_sections (dir : UInt8) (secs : List Sec) (hb : ∀ s ∈ secs, ∀ k ∈ s.body, isBody k = true) (st : St) :
    scanFrom dir st (render secs) = (finish st).toList ++ secs.filterMap (secResult dir) := by
  induction secs generalizing st with
  | nil => exact (List.append_nil _).symm
  | cons s ss ih =>
    have hr : render (s :: ss) = Kind.file s.a s.b :: (s.body ++ render ss) := List.flatMap_cons
    have hfm : (s :: ss).filterMap (secResult dir) = (secResult dir s).toList ++ ss.filterMap (secResult dir) := by
      cases h : secResult dir s <;> simp [h]
    rw [hr, scanFrom_cons, step, scanFrom_body dir s.body (hb s List.mem_cons_self),
      ih fun s' h => hb s' (List.mem_cons_of_mem s h), hfm]
    -- what is finished at the next header is the state `secResult` describes
    rfl

/-- **the scanner recovers the pointer of every file section** of a log, in order, for every number
    of sections, any other lines in between and any interleaving of `+`, `-` and context lines: the
    result of a section is the decoding of its lines on the wanted side -/
theorem scan_sections (dir : UInt8) (secs : List Sec) (hb : ∀ s ∈ secs, ∀ k ∈ s.body, isBody k = true) :
    scan dir (render secs) = secs.filterMap (secResult dir) :=
  -- nothing is finished at the first header: the scan starts without data
  scanFrom_sections dir secs hb { data := [], name := [] }

/-- in particular a section whose `+`/context lines spell the canonical text of a valid pointer
    yields that pointer under the new file name (`+` direction) -/
theorem added_pointer_recovered (s : Sec) (p : Ptr) (hv : Valid p) (hd : sectionData 43 s.body = enc p) :
    secResult 43 s = some (setName s.b, p) := by
  have hne : sectionData 43 s.body ≠ [] := hd ▸ mt (enc_eq_nil_iff p).mp hv.size_pos
  exact finish_eq_some hne (hd ▸ dec_enc hv)

/-- **every version a pointer may carry is seen by the log scanner**: for each of the version URLs the pointer
    decoder accepts (`v1Aliases`, regenerated from lfs/pointer.go) the line `version <url>` of a diff — added,
    removed or context — is classified as pointer data by the expression regenerated from
    lfs/gitscanner_log.go.  (D69: the expression named the current URL only, so a pointer written with an
    earlier one lost its version line, did not decode, and its object was pruned from an unpushed commit.) -/
theorem every_pointer_version_line_is_data :
    ∀ v ∈ Gen.v1Aliases, ∀ s ∈ [(43 : UInt8), 45, 32],
      classify (s :: (kVersion ++ 32 :: v)) = .data s (kVersion ++ 32 :: v) := by
  decide

/-- and so are the other lines of a pointer: `oid sha256:…`, `size …`, `ext-N-…` -/
theorem oid_size_ext_lines_are_data (rest : Bytes) (s : UInt8) (hs : s = 43 ∨ s = 45 ∨ s = 32) :
    classify (s :: ([111, 105, 100, 32, 115, 104, 97, 50, 53, 54] ++ rest)) = .data s ([111, 105, 100, 32, 115, 104, 97, 50, 53, 54] ++ rest) ∧
    classify (s :: ([115, 105, 122, 101] ++ rest)) = .data s ([115, 105, 122, 101] ++ rest) ∧
    classify (s :: ([101, 120, 116, 45] ++ rest)) = .data s ([101, 120, 116, 45] ++ rest) := by
  -- `contains`, since deciding `∈` on a list of byte strings costs a long instance search at every call
  have hdata (p : Bytes) (h : dataPrefixes.contains p = true) : classify (s :: (p ++ rest)) = .data s (p ++ rest) :=
    classify_data s _ hs ⟨p, List.contains_iff_mem.mp h, isPrefix_append p rest⟩
  exact ⟨hdata _ (by decide), hdata _ (by decide), hdata _ (by decide)⟩

end logscan

/-- non-vacuity: object 2 is reachable and not verified on the remote, so prune halts; told to continue it deletes
    3 (verified) and 4 (unreachable, not to be verified) -/
example : (prune ⟨true, false, false, false⟩ [1, 2, 3, 4] [1] [2, 3] [3]).halted = true := by decide
example : (prune ⟨true, false, true, false⟩ [1, 2, 3, 4] [1] [2, 3] [3]).deleted = [3, 4] := by decide

end C05
