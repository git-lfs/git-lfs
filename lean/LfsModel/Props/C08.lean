/-
C08 — Pointers pass through clean untouched; look-alike content is never truncated.
`s : Stream` ranges over EVERY chunking (and both EOF styles) of the bytes `s.data`.
-/
import LfsModel.Gen
import LfsModel.FilterRound

namespace C08
open Flt
open LfsA (Stream)

theorem gen_cutoff : Gen.blobSizeCutoff = Flt.cut := rfl

/-- chunk independence: the outcome of clean depends only on the bytes, not on how the pipe or
    packet layer delivered them (false of the code before the D1 repair). -/
theorem clean_chunk_independent (H : Bytes → Bytes) (s t : Stream) (st : Store) (h : s.data = t.data) :
    clean H s st = clean H t st := by
  rw [clean_eq_spec, clean_eq_spec, h]

theorem smudge_chunk_independent (s t : Stream) (st : Store) (h : s.data = t.data) :
    smudge s st = smudge t st := by
  rw [smudge_eq_spec, smudge_eq_spec, h]

/-- a well-formed pointer (necessarily shorter than 1024 bytes) is written back unchanged and
    nothing is added to local storage -/
theorem clean_pointer_passthrough (H : Bytes → Bytes) (s : Stream) (st : Store) {x}
    (hp : Lfs.dec s.data = .ok x) : clean H s st = (.pass s.data, st) := by
  rw [clean_eq_spec, cleanSpec_of_ok hp]

/-- content that does not parse as a pointer is treated as content IN FULL: what is stored under
    `H b` is all of `b`, whatever prefix of it looks like a pointer -/
theorem clean_content_in_full (H : Bytes → Bytes) (s : Stream) (st : Store) {e}
    (hne : s.data ≠ []) (hp : Lfs.dec s.data = .error e) :
    (clean H s st).1 = .stored (H s.data) s.data ∨ (clean H s st).1 = .mismatch := by
  rw [clean_eq_spec]
  exact cleanSpec_fst_of_error H st hp

/-- 1024 bytes or longer is always content -/
theorem clean_long_is_content (H : Bytes → Bytes) (s : Stream) (st : Store) (hl : cut ≤ s.data.length) :
    (clean H s st).1 = .stored (H s.data) s.data ∨ (clean H s st).1 = .mismatch :=
  have hd := Lfs.dec_of_long hl
  clean_content_in_full H s st (ne_nil_of_dec_error hd) hd

/-- the store only changes by gaining the cleaned content under its own hash -/
theorem clean_store_delta (H : Bytes → Bytes) (s : Stream) (st : Store) :
    (clean H s st).2 = st ∨ (clean H s st).2 = (H s.data, s.data) :: st := by
  rw [clean_eq_spec]
  exact cleanSpec_snd H s.data st

/-- what clean writes to Git decodes as a pointer: the text it was given, the pointer to what it stored, or
    nothing at all (the empty pointer) -/
theorem clean_out_is_pointer (H : Bytes → Bytes) (hH : ∀ b, Lfs.isOid (H b) = true)
    (b : Bytes) (st : Store) (hlen : b.length ≤ Lfs.maxInt64) :
    ∃ x, Lfs.dec (cleanSpec H b st).1.out = .ok x := by
  cases hd : Lfs.dec b with
  | ok x => rw [cleanSpec_of_ok hd]; exact ⟨x, hd⟩
  | error e =>
    rcases cleanSpec_fst_of_error H st hd with h | h
    · rw [h]; exact ⟨_, dec_emitted (hH b) (ne_nil_of_dec_error hd) hlen⟩
    · rw [h]; exact ⟨_, Lfs.dec_nil⟩

/-- never a pointer to a pointer: what clean emits, cleaned again (any chunking `t`), passes
    through unchanged and leaves the store alone.  Hypotheses: `H` yields 64 lower-case hex digits
    (SHA-256 does) and the content length fits int64. -/
theorem no_pointer_to_pointer (H : Bytes → Bytes) (hH : ∀ b, Lfs.isOid (H b) = true)
    (s : Stream) (st : Store) (hlen : s.data.length ≤ Lfs.maxInt64)
    (t : Stream) (st' : Store) (ht : t.data = (clean H s st).1.out) :
    clean H t st' = (.pass t.data, st') := by
  obtain ⟨x, hd⟩ := clean_out_is_pointer H hH s.data st hlen
  rw [← clean_eq_spec, ← ht] at hd
  exact clean_pointer_passthrough H t st' hd

/-- smudging bytes that do not parse as a pointer (in particular anything of 1024 bytes or more)
    passes ALL of them through unchanged, for every chunking -/
theorem smudge_nonpointer_passthrough (s : Stream) (st : Store) {e} (hp : Lfs.dec s.data = .error e) :
    smudge s st = .bytes s.data (!s.data.isEmpty) := by
  rw [smudge_eq_spec, smudgeSpec, hp]

theorem smudge_long_passthrough (s : Stream) (st : Store) (hl : cut ≤ s.data.length) :
    smudge s st = .bytes s.data true := by
  have hd := Lfs.dec_of_long hl
  rw [smudge_nonpointer_passthrough s st hd, List.isEmpty_eq_false_iff.mpr (ne_nil_of_dec_error hd)]
  rfl

/-! ### non-vacuity: the D1 witness.  A stream whose first chunk is a complete, valid pointer and
whose second chunk is more data: the whole is content (hypothesis of `clean_content_in_full`), the
first chunk alone is a pointer (hypothesis of `clean_pointer_passthrough`). -/
def witnessPtr : Bytes := [118, 101, 114, 115, 105, 111, 110, 32, 104, 116, 116, 112, 115, 58, 47, 47, 103, 105, 116, 45, 108, 102, 115, 46, 103, 105, 116, 104, 117, 98, 46, 99, 111, 109, 47, 115, 112, 101, 99, 47, 118, 49, 10, 111, 105, 100, 32, 115, 104, 97, 50, 53, 54, 58, 52, 100, 55, 97, 50, 49, 52, 54, 49, 52, 97, 98, 50, 57, 51, 53, 99, 57, 52, 51, 102, 57, 101, 48, 102, 102, 54, 57, 100, 50, 50, 101, 97, 100, 98, 98, 56, 102, 51, 50, 98, 49, 50, 53, 56, 100, 97, 97, 97, 53, 101, 50, 99, 97, 50, 52, 100, 49, 55, 101, 50, 51, 57, 51, 10, 115, 105, 122, 101, 32, 49, 50, 51, 52, 53, 10]
def witnessStream : Stream := ⟨[witnessPtr, [69, 88, 84, 82, 65]], false⟩

def isOk {α ε} : Except ε α → Bool | .ok _ => true | .error _ => false
theorem ok_of_isOk {α ε} {r : Except ε α} (h : isOk r = true) : ∃ x, r = .ok x := by
  cases r with | ok x => exact ⟨x, rfl⟩ | error e => cases h
theorem err_of_not_isOk {α ε} {r : Except ε α} (h : isOk r = false) : ∃ e, r = .error e := by
  cases r with | ok x => cases h | error e => exact ⟨e, rfl⟩

set_option maxRecDepth 100000 in
example : (∃ x, Lfs.dec witnessPtr = .ok x) ∧ (∃ e, Lfs.dec witnessStream.data = .error e) ∧ witnessStream.data ≠ [] := by
  exact ⟨ok_of_isOk (by decide +kernel), err_of_not_isOk (by decide +kernel), by decide⟩

end C08
