/-
C09 — Killing git-lfs at any instant never leaves a bad object in local storage.
A command is a list of atomic file-system operations; SIGKILL = any prefix of that list (completed system
calls persist).
-/
import LfsModel.Gen
import LfsModel.Crash
import LfsModel.CrashRerun
import LfsModel.CrashIno

namespace C09
open Crash

variable (H : Bytes → Oid)

/-- ANY PREFIX IS INTACT: if an operation list runs under the storage discipline (nothing is ever
    written at an object path; a file enters objects/ only by rename or link, and only if its content
    hashes to the name), then after every prefix — every possible kill point — every object in local
    storage still hashes to its name. -/
theorem prefix_intact (ops : List Op) (fs fsEnd : Fs) (h : Intact H fs) (hr : exec H fs ops = some fsEnd) (k : Nat) :
    ∃ fsk, exec H fs (ops.take k) = some fsk ∧ Intact H fsk :=
  Crash.prefix_intact H ops fs fsEnd h hr k

theorem step_keeps_intact (fs fs' : Fs) (op : Op) (h : Intact H fs) (hs : step H fs op = some fs') : Intact H fs' :=
  step_intact H fs fs' op h hs

/-- the discipline itself: an accepted rename into objects/ carries content hashing to the target name -/
theorem only_verified_renames (fs fs' : Fs) (src : Path) (o : Oid) (hs : step H fs (.rename src (.obj o)) = some fs') :
    ∃ c, fs src = some c ∧ H c = o := by
  obtain ⟨c, hc, hd, -⟩ := step_rename H hs
  exact ⟨c, hc, (hd o rfl).1⟩

/-- operations that do not touch objects/ (temp creation, write bursts, .part hand-over) never change
    what is in local storage -/
theorem leftovers_do_not_touch_objects (ops : List Op) (fs fs' : Fs) (h : ∀ op ∈ ops, touchesObj op = false)
    (hr : exec H fs ops = some fs') : objView fs' = objView fs := exec_objView H h hr

/-- RE-RUN: for the store-one-object scenario (clean / git add of a file, a download), kill after ANY
    number of operations, run again: the same local storage as an uninterrupted run. -/
theorem rerun_same_objects (n n' : Nat) (bursts : List Bytes) (fs0 fsEnd : Fs)
    (hnew : fs0 (.obj (H bursts.flatten)) = none)
    (hend : exec H fs0 (cleanOps H n bursts) = some fsEnd) (k : Nat) :
    ∃ fsk fs2, exec H fs0 ((cleanOps H n bursts).take k) = some fsk ∧ cleanRun H fsk n' bursts = some fs2 ∧
      objView fs2 = objView fsEnd :=
  Crash.rerun_same_objects H n n' bursts fs0 fsEnd hnew hend k

/-- the scenario's operation list does run from any state (so the theorems above are not vacuous) -/
theorem scenario_runs (n : Nat) (bursts : List Bytes) (fs : Fs) :
    ∃ fs', exec H fs (cleanOps H n bursts) = some fs' :=
  (exec_cleanOps H n bursts fs).imp fun _ h => h.1

example : (exec (fun b => b.length) (fun _ => none) (cleanOps (fun b => b.length) 0 [[1,2],[3]])).isSome = true := by decide

/-! ### the same with hard links as they are: a second name of one file, not a copy -/

/-- one step of the discipline (which here includes: no write to an inode that has a name in lfs/objects)
    keeps every object's content hashing to its name -/
theorem step_keeps_objects_intact_with_links (Hf : Crash.Bytes → Crash.Oid) (fs fs' : CrashI.Fs) (op : CrashI.Op)
    (hi : CrashI.Intact Hf fs) (hw : CrashI.Wf fs) (hs : CrashI.step Hf fs op = some fs') :
    CrashI.Intact Hf fs' ∧ CrashI.Wf fs' := CrashI.step_inv Hf fs fs' op hi hw hs

/-- SIGKILL at any instant = any prefix of the operation list: local storage is intact there, hard
    links included -/
theorem kill_anywhere_leaves_storage_intact_with_links (Hf : Crash.Bytes → Crash.Oid) (ops : List CrashI.Op)
    (fsEnd : CrashI.Fs) (he : CrashI.exec Hf {} ops = some fsEnd) (k : Nat) :
    ∃ fsK, CrashI.exec Hf {} (ops.take k) = some fsK ∧ CrashI.Intact Hf fsK :=
  CrashI.prefix_intact Hf ops {} fsEnd (CrashI.empty_inv Hf).1 (CrashI.empty_inv Hf).2 he k

/-! tie to tools/filetools.go as it is in /repo now -/
/-- RenameFileCopyPermissions — the step that puts a verified file under an object's name, in all three download
    adapters — looks at the destination, copies its mode onto the source, and renames ONCE: the destination is never
    moved aside first, so at every instant the name holds either the old complete file or the new one (the crash
    model's `rename` step; the trial change seeded/C09-replace-by-move-aside replaced it by move-aside, rename, unlink) -/
theorem gen_rename_into_place_is_one_rename :
    Gen.renameIntoPlaceCalls =
      [
       -- os.Stat: destfile | 
       [111, 115, 46, 83, 116, 97, 116, 58, 32, 100, 101, 115, 116, 102, 105, 108, 101, 32, 124, 32],
       -- os.IsNotExist: err | 
       [111, 115, 46, 73, 115, 78, 111, 116, 69, 120, 105, 115, 116, 58, 32, 101, 114, 114, 32, 124, 32],
       -- os.Chmod: srcfile, info.Mode() | !(os.IsNotExist(err)) && !(err != nil)
       [111, 115, 46, 67, 104, 109, 111, 100, 58, 32, 115, 114, 99, 102, 105, 108, 101, 44, 32, 105, 110, 102, 111, 46, 77, 111, 100, 101, 40, 41, 32, 124, 32, 33, 40, 111, 115, 46, 73, 115, 78, 111, 116, 69, 120, 105, 115, 116, 40, 101, 114, 114, 41, 41, 32, 38, 38, 32, 33, 40, 101, 114, 114, 32, 33, 61, 32, 110, 105, 108, 41],
       -- srcfile, destfile | 
       [115, 114, 99, 102, 105, 108, 101, 44, 32, 100, 101, 115, 116, 102, 105, 108, 101, 32, 124, 32]
      ] := by rfl

end C09
