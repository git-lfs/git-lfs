/-
C18 — Every API request git-lfs emits conforms to the published LFS API.
The schemas (`Gen.*Schema`) and the struct-tag tables (`Gen.*Fields`) are regenerated from /repo on every run, so
the theorems are re-proved against what docs/api/schemas/*.json and the Go struct tags say now.
-/
import LfsModel.Gen
import LfsModel.GenApi
import LfsModel.ApiProofs
import LfsModel.UrlEscape

namespace C18
open Api ApiReq

/- `simp` checks a request field by field (`validate_encodeStruct`) and evaluates the lookups in the concrete
   tag tables and schemas; what each theorem adds is its encoder, its tables and its hypotheses. -/
attribute [local simp] fieldOk fieldGet memberOk lookupVal lookupSch validate tyOk minOk Sch.ty Sch.items Sch.minimum
  jstr jint jbool jstrs

/-- the model has a value for every field of every request struct (a field added to a struct makes
    this fail instead of being silently dropped from the model's encoding) -/
theorem fields_known :
    Gen.batchRequestFields.map (·.1) = ["Operation", "Objects", "TransferAdapterNames", "Ref", "HashAlgorithm"] ∧
    Gen.batchRefFields.map (·.1) = ["Name"] ∧
    Gen.TransferFields.map (·.1) = ["Name", "Oid", "Size", "Authenticated", "Actions", "Links", "Error", "Path"] ∧
    Gen.verifyRequestFields.map (·.1) = ["Oid", "Size"] ∧
    Gen.lockRequestFields.map (·.1) = ["Path", "Ref"] ∧
    Gen.unlockRequestFields.map (·.1) = ["Force", "Ref"] ∧
    Gen.lockVerifiableRequestFields.map (·.1) = ["Ref", "Cursor", "Limit"] ∧
    Gen.lockRefFields.map (·.1) = ["Name"] := ⟨rfl, rfl, rfl, rfl, rfl, rfl, rfl, rfl⟩

/-- the `items` schema of "objects" in the published batch request schema -/
def objItemSch : Sch :=
  .mk (some .object)
    [("authenticated", .mk (some .boolean) [] [] none none true), ("oid", .mk (some .string) [] [] none none true),
     ("size", .mk (some .number) [] [] none (some 0) true)] ["oid", "size"] none none false

/-- one batch object (what `batch.ToTransfers` builds) validates against it, provided the oid is not
    empty (an empty oid is omitted by `omitempty`) and the size is not negative.  The schema forbids
    additional members: this also says that no other Transfer field (name, path, actions …) leaks. -/
theorem transfer_valid (o : Obj) (h1 : o.oid ≠ "") (h2 : 0 ≤ o.size) :
    validate objItemSch (encTransfer o) = true := by
  simp [objItemSch, encTransfer, Gen.TransferFields, h1, h2]

/-- **batch**: for every operation name, object list, adapter list and ref name, the request body
    validates against docs/api/schemas/http-batch-request-schema.json — under exactly the hypothesis
    that the caller's objects have non-empty ids and non-negative sizes -/
theorem batch_request_valid (r : BatchIn) (h : ∀ o ∈ r.objs, o.oid ≠ "" ∧ 0 ≤ o.size) :
    validate Gen.batchRequestSchema (encBatch r) = true := by
  simpa [Gen.batchRequestSchema, encBatch, Gen.batchRequestFields, Gen.batchRefFields, objItemSch]
    using fun o ho => transfer_valid o (h o ho).1 (h o ho).2

/-- the hypothesis is necessary: an object with a negative size makes the body invalid -/
theorem batch_request_negative_size_invalid :
    validate Gen.batchRequestSchema (encBatch ⟨"download", [⟨"ab", -1⟩], [], "refs/heads/main"⟩) = false := by
  decide

/-- the request names exactly the caller's objects, in order, with their sizes -/
theorem batch_names_exactly_the_callers_objects (r : BatchIn) (h : ∀ o ∈ r.objs, o.oid ≠ "") :
    batchObjects (encBatch r) = r.objs.map fun o => (some o.oid, some o.size) := by
  have hobjs : objField (encBatch r) "objects" = some (.arr (JList.ofList (r.objs.map encTransfer))) := by
    simp [encBatch, Gen.batchRequestFields]
  rw [batchObjects, hobjs]
  simp only [listOf_ofList, List.map_map]
  apply List.map_congr_left
  intro o ho
  simp [encTransfer, Gen.TransferFields, h o ho, strOf, numOf]

/-- **lock creation**: valid for every path and every ref name, the empty one included
    (then "ref" is left out; `"ref":{}` would violate `required: ["name"]`) -/
theorem lock_create_request_valid (path refName : String) :
    validate Gen.lockCreateRequestSchema (encLock path refName) = true := by
  by_cases h : refName = "" <;>
  simp [Gen.lockCreateRequestSchema, encLock, encLockRef, h, Gen.lockRequestFields, Gen.lockRefFields]

/-- **lock deletion** -/
theorem lock_delete_request_valid (force : Bool) (refName : String) :
    validate Gen.lockDeleteRequestSchema (encUnlock force refName) = true := by
  by_cases h : refName = "" <;>
  simp [Gen.lockDeleteRequestSchema, encUnlock, encLockRef, h, Gen.unlockRequestFields, Gen.lockRefFields]

/-- **lock verification** (schema transcribed from docs/api/locking.md): valid whenever the limit is
    not negative -/
theorem lock_verify_request_valid (refName cursor : String) (limit : Int) (hl : 0 ≤ limit) :
    validate lockVerifyRequestDoc (encLockVerify refName cursor limit) = true := by
  by_cases h : refName = "" <;>
  simp [lockVerifyRequestDoc, strSch, encLockVerify, encLockRef, h, hl, Gen.lockVerifiableRequestFields,
    Gen.lockRefFields]

/-- … and a negative limit is sent as it is (`omitempty` only drops 0) and is invalid -/
theorem lock_verify_negative_limit_invalid :
    validate lockVerifyRequestDoc (encLockVerify "refs/heads/main" "3" (-3)) = false := by
  decide

/-- **object verification** (docs/api/basic-transfers.md): exactly `oid` and `size` -/
theorem object_verify_request_valid (o : Obj) (h : 0 ≤ o.size) :
    validate objectVerifyRequestDoc (encVerify o) = true := by
  simp [objectVerifyRequestDoc, strSch, encVerify, Gen.verifyRequestFields, h]

/-- every batch request announces the hash algorithm the client can verify, and the client accepts a
    response only if it names that algorithm or none -/
theorem hash_algo_announced_and_checked :
    Gen.batchHashAlgo = "sha256" ∧ ∀ algo, acceptsHashAlgo algo = true ↔ (algo = "" ∨ algo = "sha256") := by
  refine ⟨rfl, fun algo => ?_⟩
  simp [acceptsHashAlgo, Gen.acceptedHashAlgos]

/-- a response naming any other algorithm is rejected -/
theorem unsupported_hash_algo_rejected (algo : String) (h1 : algo ≠ "") (h2 : algo ≠ "sha256") :
    acceptsHashAlgo algo = false := by
  simp [acceptsHashAlgo, Gen.acceptedHashAlgos, h1, h2]

/-- the media type of the API -/
theorem media_type : Gen.lfsMediaType = "application/vnd.git-lfs+json" := rfl

/-- non-vacuity: a two-object upload request meets the hypotheses and is valid -/
example : validate Gen.batchRequestSchema (encBatch ⟨"upload", [⟨"aa", 3⟩, ⟨"bb", 0⟩], ["basic"], "refs/heads/x"⟩) = true :=
  batch_request_valid _ (by decide)

/-- one step: whatever adapter was running, the objects of an answer are carried by the adapter the
    answer names — `basic` when it names none, or one that is not configured -/
theorem adapter_is_the_one_the_answer_names (avail : List String) (cur : Option String)
    (hc : ∀ c, cur = some c → c ∈ avail) (name : String) :
    useAdapter avail cur name = some (resolveAdapter avail name) := by
  fun_cases useAdapter avail cur name
  next h => rw [h, resolveAdapter, if_pos (hc name h)]
  next => rfl

/-- … for every history of answers: the adapter in charge depends on the LATEST answer only -/
theorem adapter_follows_latest_answer (avail : List String) (hb : "basic" ∈ avail) (answers : List String) (last : String)
    (cur : Option String) (hc : ∀ c, cur = some c → c ∈ avail) :
    adapterAfter avail cur (answers ++ [last]) = some (resolveAdapter avail last) := by
  rw [adapterAfter, List.foldl_append]
  exact adapter_is_the_one_the_answer_names avail _ (adapterAfter_mem hb cur hc answers) last

/-- an answer without a `transfer` member is a basic answer, whatever came before -/
theorem omitted_transfer_means_basic (avail : List String) (hb : "basic" ∈ avail) (hn : "" ∉ avail)
    (answers : List String) (cur : Option String) (hc : ∀ c, cur = some c → c ∈ avail) :
    adapterAfter avail cur (answers ++ [""]) = some "basic" := by
  rw [adapter_follows_latest_answer avail hb answers "" cur hc]
  simp [resolveAdapter, hn]

example : adapterAfter ["basic", "tus"] none ["tus", ""] = some "basic" := by decide

/-! ### the unlock URL: the lock id is one path segment, whatever bytes the server put into it -/

/-- no byte of the escaped id can end the segment or start a query or a fragment -/
theorem unlock_id_is_one_segment (id : UrlEsc.Bytes) :
    ∀ x ∈ UrlEsc.pathEscape id, x ≠ 47 ∧ x ≠ 63 ∧ x ≠ 35 := UrlEsc.escape_nodelim id

/-- the server reads back exactly the id it handed out -/
theorem unlock_id_round_trip (id : UrlEsc.Bytes) : UrlEsc.pathUnescape (UrlEsc.pathEscape id) = some id :=
  UrlEsc.unescape_escape id

/-- two different ids never address the same unlock URL -/
theorem unlock_url_injective (a b : UrlEsc.Bytes) (h : UrlEsc.unlockSuffix a = UrlEsc.unlockSuffix b) : a = b :=
  UrlEsc.escape_injective a b (List.append_cancel_left (List.append_cancel_right h))

/-- `a?b#/ ` ↦ `a%3Fb%23%2F%20` -/
example : UrlEsc.pathEscape [97, 63, 98, 35, 47, 32] = [97, 37, 51, 70, 98, 37, 50, 51, 37, 50, 70, 37, 50, 48] := by decide

/-- the id segment of the unlock URL is empty only for an empty id — which the client refuses to address (D81) -/
theorem unlock_id_segment_nonempty (id : UrlEsc.Bytes) (h : id ≠ []) : UrlEsc.pathEscape id ≠ [] :=
  mt (UrlEsc.pathEscape_eq_nil_iff id).mp h

/-! tie to lfsapi/auth.go as it is in /repo now -/
/-- after an auth error doWithAuth deletes the request's Authorization header in ONE place, and only when git-lfs
    itself had filled it from the credential helper (`credWrapper.Creds != nil`): a header the offered action
    supplied stays on the request, so no resubmission goes out without it or with the user's own credentials -/
theorem gen_offered_authorization_is_never_deleted :
    Gen.authHeaderDeletions =
      [[34, 65, 117, 116, 104, 111, 114, 105, 122, 97, 116, 105, 111, 110, 34, 32, 124, 32, 101, 114, 114, 32, 33, 61, 32, 110, 105, 108, 32, 38, 38, 32, 101, 114, 114, 111, 114, 115, 46, 73, 115, 65, 117, 116, 104, 69, 114, 114, 111, 114, 40, 101, 114, 114, 41, 32, 38, 38, 32, 99, 114, 101, 100, 87, 114, 97, 112, 112, 101, 114, 46, 67, 114, 101, 100, 115, 32, 33, 61, 32, 110, 105, 108]]
        -- "Authorization" | err != nil && errors.IsAuthError(err) && credWrapper.Creds != nil
      := by rfl

end C18
