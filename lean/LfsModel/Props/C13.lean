/-
C13 — fsck reports exactly the damaged objects and pointers and only moves those.
-/
import LfsModel.Gen
import LfsModel.FsckProofs
import LfsModel.FsckScan
import LfsModel.AttrFilter

namespace C13
open Fs

/-- with both checks on, fsck succeeds exactly when every referenced object is fine and every
    tracked file is a canonical pointer -/
theorem exit_ok_iff (dry : Bool) (refs : List Ref) (tracked : List Tracked) :
    (fsck ⟨true, true, dry⟩ refs tracked).exitOk = true ↔
      (∀ r ∈ refs, refOk r = true) ∧ (∀ t ∈ tracked, trackedBad t = false) := by
  simp [exitOk_iff, Flags.norm]

/-- no flags = both checks -/
theorem default_is_both (dry : Bool) (refs : List Ref) (tracked : List Tracked) :
    fsck ⟨false, false, dry⟩ refs tracked = fsck ⟨true, true, dry⟩ refs tracked := rfl

/-- `--objects` alone: success exactly when every referenced object is fine -/
theorem objects_only_exit (dry : Bool) (refs : List Ref) (tracked : List Tracked) :
    (fsck ⟨true, false, dry⟩ refs tracked).exitOk = true ↔ ∀ r ∈ refs, refOk r = true := by
  simp [exitOk_iff, Flags.norm]

/-- `--pointers` alone: success exactly when every tracked file is a canonical pointer; nothing is moved -/
theorem pointers_only (dry : Bool) (refs : List Ref) (tracked : List Tracked) :
    ((fsck ⟨false, true, dry⟩ refs tracked).exitOk = true ↔ ∀ t ∈ tracked, trackedBad t = false) ∧
    (fsck ⟨false, true, dry⟩ refs tracked).moved = [] := by
  simp [exitOk_iff, moved_eq, Flags.norm]

/-- the objects named are exactly the missing (non-empty) and corrupt ones: every damaged one is
    named, no intact one is -/
theorem reported_objects_exact (f : Flags) (hf : f.norm.objects = true) (refs : List Ref) (tracked : List Tracked) (o : Nat) :
    o ∈ (fsck f refs tracked).reportedObjects ↔ ∃ r ∈ refs, r.oid = o ∧ refOk r = false :=
  mem_reportedObjects.trans (and_iff_right hf)

theorem intact_never_reported (f : Flags) (refs : List Ref) (tracked : List Tracked) (o : Nat)
    (hall : ∀ r ∈ refs, r.oid = o → r.state = .intact) : o ∉ (fsck f refs tracked).reportedObjects := by
  rw [mem_reportedObjects]
  rintro ⟨_, r, hr, ho, hb⟩
  rw [refOk, hall r hr ho] at hb
  cases hb

/-- the pointers named are exactly the non-canonical and non-pointer files -/
theorem reported_pointers_exact (f : Flags) (hf : f.norm.pointers = true) (refs : List Ref) (tracked : List Tracked) (i : Nat) :
    i ∈ (fsck f refs tracked).reportedPointers ↔ ∃ t ∈ tracked, trackedId t = i ∧ trackedBad t = true :=
  mem_reportedPointers.trans (and_iff_right hf)

/-- only corrupt objects are moved: never an intact one, never anything under `--dry-run` -/
theorem moved_only_corrupt (f : Flags) (refs : List Ref) (tracked : List Tracked) (o : Nat)
    (h : o ∈ (fsck f refs tracked).moved) : f.dryRun = false ∧ ∃ r ∈ refs, r.oid = o ∧ r.state = .corrupt :=
  (mem_moved.mp h).2

theorem dry_run_moves_nothing (f : Flags) (hd : f.dryRun = true) (refs : List Ref) (tracked : List Tracked) :
    (fsck f refs tracked).moved = [] := by
  simp [moved_eq, hd]

/-- every corrupt referenced object IS moved by a repairing run that checks objects -/
theorem corrupt_is_moved (f : Flags) (hf : f.norm.objects = true) (hd : f.dryRun = false)
    (refs : List Ref) (tracked : List Tracked) (r : Ref) (hr : r ∈ refs) (hc : r.state = .corrupt) :
    r.oid ∈ (fsck f refs tracked).moved :=
  mem_moved.mpr ⟨hf, hd, r, hr, rfl, hc⟩

/-- non-vacuity: of a corrupt, an intact, a missing and a missing empty object only the corrupt one is moved -/
example : (fsck ⟨false, false, false⟩ [⟨1, false, .corrupt⟩, ⟨2, false, .intact⟩, ⟨3, false, .missing⟩, ⟨4, true, .missing⟩] [.canonical 1, .notPointer 9]).moved = [1] := by decide

/-! ### which pointers the object check looks at (the scan behind `refs`) -/

/-- the scan never yields a blob that no path outside lfs.fetchexclude holds -/
theorem scan_checks_only_needed (excluded : Nat → Bool) (t : List (Nat × Nat)) (b : Nat)
    (h : b ∈ FsScan.scanned excluded t) : FsScan.needed excluded t b := by
  obtain ⟨p, hp, hex⟩ := FsScan.mem_scanned.mp h
  exact ⟨p, FsScan.firstNames_mem hp, hex⟩

/-- "every object referenced in the checked revisions …", PARTIAL: shown for trees in which no pointer
    blob sits on both sides of the exclusion — in particular whenever lfs.fetchexclude is not set -/
theorem scan_checks_every_needed_partial (excluded : Nat → Bool) (t : List (Nat × Nat))
    (hsame : ∀ p q b, (p, b) ∈ t → (q, b) ∈ t → excluded p = excluded q)
    (b : Nat) (h : FsScan.needed excluded t b) : b ∈ FsScan.scanned excluded t := by
  obtain ⟨p, hp, hex⟩ := h
  obtain ⟨q, hq⟩ := FsScan.firstNames_covers hp List.not_mem_nil
  -- the first name `q` of the blob may differ from `p`: `hsame` carries the exclusion over
  exact FsScan.mem_scanned.mpr ⟨q, hq, (hsame q p b (FsScan.firstNames_mem hq) hp).trans hex⟩

theorem scan_checks_every_blob_without_exclusion (t : List (Nat × Nat)) (p b : Nat) (h : (p, b) ∈ t) :
    b ∈ FsScan.scanned (fun _ => false) t :=
  scan_checks_every_needed_partial _ t (fun _ _ _ _ _ => rfl) b ⟨p, h, rfl⟩

/-- what is missing from the full statement, with its witness (known finding D49): a copied file -/
theorem scan_full_statement_fails_d49 :
    FsScan.needed (fun p => p == 1) [(1, 7), (2, 7)] 7 ∧ 7 ∉ FsScan.scanned (fun p => p == 1) [(1, 7), (2, 7)] :=
  ⟨⟨2, by decide, rfl⟩, by decide⟩

/-! ### which paths are expected to hold a pointer ("every tracked file there is a canonical pointer") -/

/-- THE FULL STATEMENT: fsck expects a pointer at a path exactly when Git's own rule — the last matching line that
    mentions `filter` decides — tracks the path with LFS, for every list of attribute lines (D21: false of the code
    before the tree scanner was given ordered rules) -/
theorem expected_pointer_paths_are_exactly_the_tracked_ones (ls : List AttrFilter.Line) :
    AttrFilter.fsckSays ls = AttrFilter.gitSays ls := AttrFilter.fsck_eq_git ls

/-- no false expectation … -/
theorem expected_pointer_paths_are_tracked (ls : List AttrFilter.Line) (h : AttrFilter.fsckSays ls = true) :
    AttrFilter.gitSays ls = true := (AttrFilter.fsck_eq_git ls).symm.trans h

/-- … and nothing missed -/
theorem tracked_paths_are_expected (ls : List AttrFilter.Line) (h : AttrFilter.gitSays ls = true) :
    AttrFilter.fsckSays ls = true := (AttrFilter.fsck_eq_git ls).trans h

/-- the input on which the full statement failed before the D21 repair: `-filter` then `filter=lfs` -/
theorem d21_input_now_agrees :
    AttrFilter.gitSays [⟨true, true, false⟩, ⟨true, true, true⟩] = true ∧
    AttrFilter.fsckSays [⟨true, true, false⟩, ⟨true, true, true⟩] = true := ⟨rfl, rfl⟩

/-- a line that only makes files lockable takes no path out of the pointer check, wherever it stands (D71) -/
theorem lockable_only_line_is_irrelevant (pre post : List AttrFilter.Line) (l : AttrFilter.Line) (h : l.hasFilter = false) :
    AttrFilter.fsckSays (pre ++ l :: post) = AttrFilter.fsckSays (pre ++ post) :=
  (AttrFilter.line_irrelevant pre post l (by rw [h, Bool.and_false])).1

/-- tie to commands/command_fsck.go: when neither --objects nor --pointers is given BOTH checks run — whatever other options (--dry-run) are given; there is no other assignment to either switch -/
theorem gen_fsck_defaults :
    Gen.fsckDefaults =
      [
       -- true | !fsckPointers && !fsckObjects
       [116, 114, 117, 101, 32, 124, 32, 33, 102, 115, 99, 107, 80, 111, 105, 110, 116, 101, 114, 115, 32, 38, 38, 32, 33, 102, 115, 99, 107, 79, 98, 106, 101, 99, 116, 115],
       -- true | !fsckPointers && !fsckObjects
       [116, 114, 117, 101, 32, 124, 32, 33, 102, 115, 99, 107, 80, 111, 105, 110, 116, 101, 114, 115, 32, 38, 38, 32, 33, 102, 115, 99, 107, 79, 98, 106, 101, 99, 116, 115]
      ] := by rfl

end C13
