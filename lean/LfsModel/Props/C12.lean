/-
C12 — Migrate import/export rewrites history without changing any file's content.
-/
import LfsModel.TagRewrite
import LfsModel.Rewrite

namespace C12
open Rw

/-- the cache invariant: every cached entry is the image of its key under the blob function -/
def CacheInv (fn : Nat → Nat → Nat) (c : Cache) : Prop :=
  ∀ k e, c.get k = some e → e.path = k.1 ∧ e.blob = fn k.1 k.2

theorem rewriteEntry_spec (allows : Nat → Bool) (fn : Nat → Nat → Nat) (c : Cache) (e : Entry) (hc : CacheInv fn c) :
    (rewriteEntry allows fn c e).2 = specEntry allows fn e ∧ CacheInv fn (rewriteEntry allows fn c e).1 := by
  unfold rewriteEntry specEntry
  split
  · exact ⟨rfl, hc⟩
  · split
    · next hit hg =>
      -- a hit has the key's path and the image blob by the invariant, and is given the current mode
      obtain ⟨hp, hb⟩ := hc _ _ hg
      exact ⟨by rw [hp, hb], hc⟩
    · refine ⟨rfl, fun k e' hget => ?_⟩
      rw [Cache.get] at hget
      split at hget
      · next hk =>
        cases hget
        cases beq_iff_eq.mp hk
        exact ⟨rfl, rfl⟩
      · exact hc k e' hget

/-- **memoisation is sound**: with ANY cache state reachable from earlier commits, rewriting a tree
    gives exactly the entry-wise image under the blob function — path and MODE of every entry are the
    original's (also on a cache hit recorded under another mode), unselected entries and symlinks are
    untouched — and the invariant is kept -/
theorem rewriteTree_spec (allows : Nat → Bool) (fn : Nat → Nat → Nat) (c : Cache) (t : List Entry) (hc : CacheInv fn c) :
    (rewriteTree allows fn c t).2 = t.map (specEntry allows fn) ∧ CacheInv fn (rewriteTree allows fn c t).1 := by
  induction t generalizing c with
  | nil => exact ⟨rfl, hc⟩
  | cons e es ih =>
    have h1 := rewriteEntry_spec allows fn c e hc
    have h2 := ih (rewriteEntry allows fn c e).1 h1.2
    simp only [rewriteTree, List.map_cons]
    exact ⟨by rw [h1.1, h2.1], h2.2⟩

theorem modes_and_paths_preserved (allows : Nat → Bool) (fn : Nat → Nat → Nat) (e : Entry) :
    (specEntry allows fn e).path = e.path ∧ (specEntry allows fn e).mode = e.mode := by
  unfold specEntry; split <;> simp

theorem unselected_untouched (allows : Nat → Bool) (fn : Nat → Nat → Nat) (e : Entry) (h : allows e.path = false) :
    specEntry allows fn e = e := by simp [specEntry, h]

theorem symlink_untouched (allows : Nat → Bool) (fn : Nat → Nat → Nat) (e : Entry) (h : e.mode = symlinkMode) :
    specEntry allows fn e = e := by simp [specEntry, h]

/-- content is preserved once pointers are resolved: if the blob function is content-preserving
    under `resolve` (import: clean stores the object the pointer names, C01; export: smudge), every
    entry of every rewritten tree resolves to what the original did -/
theorem content_preserved (allows : Nat → Bool) (fn : Nat → Nat → Nat) (resolve : Nat → Nat)
    (hfn : ∀ p b, resolve (fn p b) = resolve b) (e : Entry) :
    resolve (specEntry allows fn e).blob = resolve e.blob := by
  unfold specEntry; split <;> simp [hfn]

/-- every rewritten commit keeps its metadata, has the entry-wise image of its tree, and its parents
    are the images of the original parents (or the original id across a partial-migration boundary) -/
theorem rewriteCommit_spec (allows : Nat → Bool) (fn : Nat → Nat → Nat) (newId : Commit → Nat) (s : St) (cm : Commit)
    (hc : CacheInv fn s.cache) :
    let s' := rewriteCommit allows fn newId s cm
    (∃ c', s'.out = c' :: s.out ∧ c'.hdr = cm.hdr ∧ c'.tree = cm.tree.map (specEntry allows fn) ∧
        c'.parents = cm.parents.map (mapParent s.cmap) ∧ s'.cmap.get cm.id = some c'.id) ∧ CacheInv fn s'.cache := by
  have h := rewriteTree_spec allows fn s.cache cm.tree hc
  exact ⟨⟨_, rfl, rfl, h.1, rfl, if_pos (beq_self_eq_true cm.id)⟩, h.2⟩

/-- the cache invariant holds after any history -/
theorem rewrite_inv (allows : Nat → Bool) (fn : Nat → Nat → Nat) (newId : Commit → Nat) (cs : List Commit) (s : St)
    (hc : CacheInv fn s.cache) : CacheInv fn (cs.foldl (rewriteCommit allows fn newId) s).cache :=
  List.foldlRecOn (motive := fun s => CacheInv fn s.cache) cs _ hc fun s hs cm _ => (rewriteCommit_spec allows fn newId s cm hs).2

/-- the number of commits is preserved -/
theorem graph_size_preserved (allows : Nat → Bool) (fn : Nat → Nat → Nat) (newId : Commit → Nat) (cs : List Commit) :
    (rewrite allows fn newId cs).out.length = cs.length :=
  (rewrite_out_length ..).trans (Nat.zero_add _)

/-- export after import with inverse blob functions on the selected paths restores every entry -/
theorem export_import_identity (allows : Nat → Bool) (imp exp : Nat → Nat → Nat)
    (hinv : ∀ p b, exp p (imp p b) = b) (e : Entry) :
    specEntry allows exp (specEntry allows imp e) = e := by
  cases h : (!allows e.path || e.mode == symlinkMode)
  · -- selected: the image has the path and mode of `e`, so it is selected as well
    simp [specEntry, h, hinv]
  · simp [specEntry, h]

/-- the `--fixup` counterexample (D12): a blob function that also depends on the commit being
    rewritten is not memoisable by (path, blob): with the cache the second commit gets the first
    commit's decision -/
theorem impure_fn_cache_unsound :
    let fn1 : Nat → Nat → Nat := fun _ b => b + 100   -- commit 1: path is LFS-tracked ⇒ convert
    let fn2 : Nat → Nat → Nat := fun _ b => b         -- commit 2: attributes changed ⇒ leave
    let e : Entry := ⟨1, 0o100644, 7⟩
    let c1 := (rewriteEntry (fun _ => true) fn1 [] e).1
    (rewriteEntry (fun _ => true) fn2 c1 e).2 ≠ specEntry (fun _ => true) fn2 e := by
  decide

/-- non-vacuity: a cache hit recorded under mode 644 is re-used for the same blob under mode 755 with
    the new mode -/
example : (rewriteTree (fun _ => true) (fun _ b => b + 100) [((1, 7), ⟨1, 0o100644, 107⟩)] [⟨1, 0o100755, 7⟩]).2
    = [⟨1, 0o100755, 107⟩] := by decide

/-! ### `--fixup`: the selection follows Git's effective `filter` attribute -/

/-- a later line (of the same file or of a nested .gitattributes) that takes the path out of LFS again
    prevails over any earlier `filter=lfs` line: the path is not converted -/
theorem fixup_later_unset_prevails (pre post : List Rw.AttrLine) (hpost : ∀ l ∈ post, l.1 = false) :
    Rw.fixupConverts (pre ++ (true, none) :: post) = false := by
  rw [Rw.fixupConverts, Rw.effFilter_last_wins pre post _ hpost]
  rfl

/-- … and a later `filter=lfs` line prevails over any earlier unset: the path is converted -/
theorem fixup_later_lfs_prevails (pre post : List Rw.AttrLine) (hpost : ∀ l ∈ post, l.1 = false) :
    Rw.fixupConverts (pre ++ (true, some Rw.sLfsFilter) :: post) = true := by
  rw [Rw.fixupConverts, Rw.effFilter_last_wins pre post _ hpost]
  rfl

/-- non-vacuity (the shape of the trial change seeded/C12-fixup-first-filter-attribute-wins): `*.bin filter=lfs`
    then `raw/*.bin !filter` -/
example : Rw.fixupConverts [(true, some Rw.sLfsFilter), (true, none)] = false ∧
    Rw.fixupConverts [(true, none), (false, some Rw.sLfsFilter), (true, some Rw.sLfsFilter)] = true := by decide

/-! ### refs that reach their commit through annotated tag objects -/

/-- a rewritten ref leads to the image of the commit the old ref led to, through any number of tag objects -/
theorem tag_chain_leads_to_the_image (img : Nat → Option Nat) (t t' : TagRw.Target) (h : TagRw.rewrite img t = some t') :
    img (TagRw.peel t) = some (TagRw.peel t') := (TagRw.rewrite_eq_some h).1

/-- every tag object on the way keeps its place, name, tagger and message -/
theorem tag_chain_keeps_every_tag (img : Nat → Option Nat) (t t' : TagRw.Target) (h : TagRw.rewrite img t = some t') :
    TagRw.metas t' = TagRw.metas t := (TagRw.rewrite_eq_some h).2

/-- a ref is re-pointed exactly when its commit was rewritten, whatever the depth of the tag chain (D78) -/
theorem tag_chain_rewritten_iff_commit_rewritten (img : Nat → Option Nat) (t : TagRw.Target) :
    (TagRw.rewrite img t).isSome = (img (TagRw.peel t)).isSome := by
  induction t with
  | commit c => exact Option.isSome_map
  | tag m t ih => exact Option.isSome_map.trans ih

end C12
