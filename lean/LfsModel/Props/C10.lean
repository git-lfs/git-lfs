/-
C10 — Credentials are only ever sent to the host they were obtained for.
The model (RedirectModel.lean) emits the trace of requests the servers receive; worlds (`w`) range over ALL
listener tables and ALL node graphs.
-/
import LfsModel.Gen
import LfsModel.RedirectProofs
import LfsModel.Redirect
import LfsModel.CredCache

namespace C10
open Rd2

/-! ### ties to lfshttp/client.go as it is in /repo now -/
theorem gen_redirect_limit : Gen.redirectLimit = Rd2.maxVia := rfl
/-- exactly the five redirect statuses of the property text are followed -/
theorem gen_redirect_statuses : Gen.redirectStatuses = [301, 302, 303, 307, 308] := rfl

/-- what "obtained for this place" means to the code (same scheme, same textual host) implies what
    the property means (same scheme, same host, same EFFECTIVE port) -/
theorem same_origin_is_same_place {a b : Lst} (h : sameOrigin a b = true) :
    a.scheme = b.scheme ∧ a.name = b.name ∧ a.effPort = b.effPort := sameOrigin_effective h

/-- AUTH CONFINED (API and authenticated storage requests, `DoWithAuth`): along every redirect / 401
    path, for every world, access mode and helper behaviour, a request that carries an Authorization
    value carries one obtained for exactly the place the request goes to. -/
theorem auth_confined (w : World) (canFill : Nat → Bool) (fuel : Nat) (access : Bool) (orig : Req)
    (h0 : orig.auth = none) : ∀ q ∈ runAuth w canFill fuel access orig, Confined w q :=
  runAuth_confined w canFill fuel access orig (by intro l hl; rw [h0] at hl; cases hl)

/-- … and for a storage request that starts with the header a batch action supplied for its own host
    (`Client.Do`): the header never reaches another place. -/
theorem header_confined (w : World) (orig : Req) (h0 : orig.auth = some orig.lst) :
    ∀ q ∈ runHeader w orig, Confined w q :=
  (chain_hops w false (fun _ => false) (maxVia + 1) 0 orig).confined (confined_own h0)

/-- consequence in the property's terms: scheme, host and effective port of label and destination agree -/
theorem auth_confined_effective (w : World) (canFill : Nat → Bool) (fuel : Nat) (access : Bool) (orig : Req)
    (h0 : orig.auth = none) (q : Req) (hq : q ∈ runAuth w canFill fuel access orig) (l : Nat) (hl : q.auth = some l) :
    (w.lst l).scheme = (w.lst q.lst).scheme ∧ (w.lst l).name = (w.lst q.lst).name ∧
    (w.lst l).effPort = (w.lst q.lst).effPort :=
  sameOrigin_effective (auth_confined w canFill fuel access orig h0 q hq l hl)

/-- redirects from https to http are refused: no chain contains such a hop -/
theorem no_https_to_http (w : World) (access : Bool) (canFill : Nat → Bool) (fuel via : Nat) (r : Req) :
    NoDowngrade w (chain w access canFill fuel via r).1 := (chain_hops w access canFill fuel via r).noDowngrade

/-- redirect chains are cut off: one chain never has more than `redirectLimit` requests -/
theorem hops_bounded (w : World) (access : Bool) (canFill : Nat → Bool) (fuel : Nat) (r : Req) :
    (chain w access canFill fuel 0 r).1.length ≤ Gen.redirectLimit :=
  gen_redirect_limit ▸ (chain_hops w access canFill fuel 0 r).length_le (by decide)

/-! ### the refuted variants, kept as regression witnesses (Redirect.lean models the code before the
D6 / D26 repairs through its `threadVia` switch and its host-only comparison) -/
theorem d6_unthreaded_via_follows_loop :
    (Rd.run (fun _ => .redirect ⟨.http, 1⟩ 0) false false 3 20 0 0 ⟨⟨.http, 1⟩, 0, none⟩).length = 20 := by decide
theorem d26_http_to_https_keeps_header :
    Rd.retryReq ⟨⟨.http, 7⟩, 0, some ⟨.http, 7⟩⟩ ⟨.https, 7⟩ 1 = some ⟨⟨.https, 7⟩, 1, some ⟨.http, 7⟩⟩ := rfl

/-- non-vacuity: a world with a cross-host redirect behind a 401; the trace shows the value obtained
    for listener 0 going only to listener 0 and a fresh one for listener 1 going to listener 1 -/
example : runAuth { lsts := [⟨.http, 1, some 8080⟩, ⟨.https, 2, none⟩],
                    nodes := [⟨0, .needauth, 1, .abs, true⟩, ⟨1, .final, 0, .abs, false⟩] } (fun _ => true) 4 false ⟨0, 0, none, false⟩
    = [⟨0, 0, none, false⟩, ⟨0, 0, some 0, false⟩, ⟨1, 1, some 1, false⟩] := rfl

/-! ### credential source "cache" (creds/creds.go: credentialCacher) -/

/-- whatever sequence of fills, approvals and rejections a command performs on its in-process
    credential cache, every credential the cache hands out was obtained for exactly the
    (protocol, host[:port], path) it is being asked about — the cache cannot carry a credential
    from one place to another -/
theorem cache_confined (ops : List CredCache.Op) :
    ∀ o ∈ (CredCache.run [] ops).2, ∀ v, o = some v → ∃ k, v.origin = k ∧ CredCache.Op.fill k ∈ ops :=
  CredCache.run_confined ops [] CredCache.inv_nil

theorem cache_hit_is_for_the_asked_key (ops : List CredCache.Op) (k : CredCache.Key) (v : CredCache.Cred)
    (h : CredCache.fill (CredCache.run [] ops).1 k = some v) : v.origin = k :=
  CredCache.fill_confined (CredCache.run_inv ops [] CredCache.inv_nil) h

/-- a rejected credential is not offered again -/
theorem cache_reject_forgets (c : CredCache.Cache) (k : CredCache.Key) :
    CredCache.fill (CredCache.reject c k) k = none := CredCache.reject_misses c k

/-- non-vacuity: approved for port 8080, asked for port 9090 of the same host: a miss -/
example : (CredCache.run [] [.approve ⟨⟨[104], [97, 58, 56], []⟩, 7⟩, .fill ⟨[104], [97, 58, 57], []⟩, .fill ⟨[104], [97, 58, 56], []⟩]).2
    = [none, none, some ⟨⟨[104], [97, 58, 56], []⟩, 7⟩] := by decide

end C10
