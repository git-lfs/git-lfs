/-
C11 — A repository's .lfsconfig can only set the documented safe keys.
`Gen.safeKeys` is config.safeKeys as it is in /repo now; `Gen.docLfsconfigKeys` is the LFSCONFIG list parsed from
docs/man/git-lfs-config.adoc.
-/
import LfsModel.Gen
import LfsModel.ConfigProofs

namespace C11
open Cfg

/-! ### ties between the code's allow-list and the documented one -/
/-- the two readers of a repository-supplied configuration file (`Configuration.FileSource` for the
    working tree, `Configuration.RevisionSource` for the index and HEAD; git/config.go, regenerated)
    mark every source they produce `OnlySafeKeys` — the hypothesis under which the theorems below
    speak about `.lfsconfig` at all -/
theorem lfsconfig_readers_restrict :
    Gen.lfsconfigReaderFlags ≠ [] ∧ ∀ b ∈ Gen.lfsconfigReaderFlags, b = true := by decide

theorem safeKeys_subset_doc : ∀ k ∈ Gen.safeKeys, k ∈ Gen.docLfsconfigKeys := by decide
/-- the documented list is the plain keys plus exactly the two patterns the model hard-codes -/
theorem doc_is_safeKeys_plus_patterns :
    Gen.docLfsconfigKeys.filter (fun k => !(Gen.safeKeys.contains k)) =
      [[108,102,115,46,123,42,125,46,97,99,99,101,115,115],                          -- lfs.{*}.access
       [114,101,109,111,116,101,46,123,110,97,109,101,125,46,108,102,115,117,114,108]] -- remote.{name}.lfsurl
    := by decide

/-! ### the dangerous key families (Spec, written from the property text; never regenerated) -/
def dangerous (key : Bytes) : Bool :=
  let parts := splitOn 46 key []
  let first := parts[0]!
  let last := parts.getLast!
  first = [99,114,101,100,101,110,116,105,97,108]        -- credential.*
  || first = [99,111,114,101]                             -- core.* (askpass, sshcommand, …)
  || first = [104,116,116,112]                            -- http.* (proxy, sslcert, …)
  || first = [117,114,108]                                -- url.*.insteadof
  || first = [102,105,108,116,101,114]                    -- filter.*
  || first = [115,115,104]                                -- ssh.*
  || (first = sRemote && (last = [117,114,108] || last = [112,117,115,104,117,114,108]))   -- remote.*.url / pushurl
  || (first = sLfs && (parts[1]! = [99,117,115,116,111,109,116,114,97,110,115,102,101,114]  -- lfs.customtransfer.<n>.path|args|…
        && (last = [112,97,116,104] || last = [97,114,103,115] || last = [99,111,110,99,117,114,114,101,110,116] || last = [100,105,114,101,99,116,105,111,110])))
  || (first = sLfs && parts[1]! = sExtension && (last = sClean || last = sSmudge || last = sPriority))
  || (first = sLfs && (last = [115,116,97,110,100,97,108,111,110,101,116,114,97,110,115,102,101,114,97,103,101,110,116]  -- lfs.standalonetransferagent
        || last = [115,115,104,116,114,97,110,115,102,101,114]))                           -- lfs.*.sshtransfer

theorem safeKeys_not_dangerous : ∀ k ∈ Gen.safeKeys, dangerous k = false := by decide

/-- Reading a source flagged `OnlySafeKeys` (that is what every `.lfsconfig` location is): the value
    map only grows by keys of the documented list, whatever the lines are. -/
theorem stored_keys_documented (lines : List Bytes) (st : State) :
    ∃ add : List (Bytes × Bytes),
      (readSource Gen.safeKeys st ⟨lines, true⟩).vals = st.vals ++ add ∧
      ∀ kv ∈ add, Documented Gen.safeKeys kv.1 :=
  ⟨_, readSource_vals Gen.safeKeys st ⟨lines, true⟩, fun kv hkv =>
    ((readSource_safe Gen.safeKeys lines {}).2 kv hkv).resolve_left List.not_mem_nil⟩

/-- … and it can never register a filter extension -/
theorem no_extension_from_lfsconfig (lines : List Bytes) (st : State) :
    (readSource Gen.safeKeys st ⟨lines, true⟩).exts = st.exts :=
  (readSource_safe Gen.safeKeys lines st).1

/-- … for the whole run, wherever the `.lfsconfig` sources stand among Git's own: the extension table is the one
    the trusted sources alone produce (a priority of `.lfsconfig` orders entries, it adds none) -/
theorem extensions_come_from_git_config (srcs : List Source) :
    (readGitConfig Gen.safeKeys srcs).exts
      = (readGitConfig Gen.safeKeys (srcs.filter fun s => !s.onlySafe)).exts :=
  exts_of_trusted_sources_only Gen.safeKeys srcs

/-- no documented key is in a dangerous family: program execution, credential helper, proxy, ssh
    command, transfer agent, filter extension, rewriting a remote's URL -/
theorem documented_not_dangerous (key : Bytes) (h : Documented Gen.safeKeys key) : dangerous key = false := by
  rcases h with h | ⟨_, hfirst, hlast⟩ | ⟨_, hfirst, hlast⟩
  · exact safeKeys_not_dangerous key h
  -- a key of either pattern: with its first and last component known, every family's test is false
  all_goals
    unfold dangerous
    simp (decide := true) only [hfirst, hlast, decide_false, Bool.and_false, Bool.false_and, Bool.or_self]

theorem dangerous_never_stored (lines : List Bytes) (st : State) (kv : Bytes × Bytes)
    (hd : dangerous kv.1 = true)
    (h : kv ∈ (readSource Gen.safeKeys st ⟨lines, true⟩).vals) : kv ∈ st.vals :=
  ((readSource_safe Gen.safeKeys lines st).2 kv h).resolve_right fun hdoc =>
    Bool.false_ne_true ((documented_not_dangerous kv.1 hdoc).symm.trans hd)

/-- Git's own configuration wins: with the sources in the order the code uses
    ([.lfsconfig, git config]) a key that git config sets has git config's (last) value. -/
theorem git_config_wins (lfsconfig gitconfig : Source) (key : Bytes) (v : Bytes)
    (h : Cfg.get (readSource Gen.safeKeys {} gitconfig) key = some v) :
    Cfg.get (readGitConfig Gen.safeKeys [lfsconfig, gitconfig]) key = some v :=
  get_readSource _ h

/-- non-vacuity: a hostile .lfsconfig whose every key is dropped (the extension priority silently: it orders,
    it is neither stored nor does it register anything), next to one documented key that is kept -/
example : (readSource Gen.safeKeys {} ⟨[[108,102,115,46,117,114,108,61,104,116,116,112,58,47,47,97], [99,111,114,101,46,97,115,107,112,97,115,115,61,47,120], [108,102,115,46,101,120,116,101,110,115,105,111,110,46,101,46,99,108,101,97,110,61,47,120],
      [108,102,115,46,101,120,116,101,110,115,105,111,110,46,101,46,112,114,105,111,114,105,116,121,61,48], [114,101,109,111,116,101,46,97,46,98,46,112,117,115,104,117,114,108,61,104,116,116,112,58,47,47,101,118,105,108], [99,114,101,100,101,110,116,105,97,108,46,104,101,108,112,101,114,61,47,120], [102,111,111,46,98,97,114,46,97,99,99,101,115,115,61,98,97,115,105,99],
      [108,102,115,46,104,116,116,112,58,47,47,104,47,46,97,99,99,101,115,115,61,98,97,115,105,99], [114,101,109,111,116,101,46,111,46,108,102,115,117,114,108,61,104,116,116,112,58,47,47,98]], true⟩) =
    { vals := [([108,102,115,46,117,114,108], [104,116,116,112,58,47,47,97]), ([108,102,115,46,104,116,116,112,58,47,47,104,47,46,97,99,99,101,115,115], [98,97,115,105,99]), ([114,101,109,111,116,101,46,111,46,108,102,115,117,114,108], [104,116,116,112,58,47,47,98])],
      exts := [], remotes := [[111]],
      ignored := [[99,111,114,101,46,97,115,107,112,97,115,115], [108,102,115,46,101,120,116,101,110,115,105,111,110,46,101,46,99,108,101,97,110], [114,101,109,111,116,101,46,97,46,98,46,112,117,115,104,117,114,108],
                  [99,114,101,100,101,110,116,105,97,108,46,104,101,108,112,101,114], [102,111,111,46,98,97,114,46,97,99,99,101,115,115]] } := by rfl

/-! ### the consumer side: which keys tq.configureCustomAdapters turns into a program to run -/

/-- the pattern as it stands in tq/custom.go (regenerated): anchored at both ends, dots escaped -/
theorem gen_adapter_pattern_anchored :
    Gen.customAdapterKeyPattern =
      [94, 108, 102, 115, 92, 46, 99, 117, 115, 116, 111, 109, 116, 114, 97, 110, 115, 102, 101, 114, 92, 46,
       40, 91, 94, 46, 93, 43, 41, 92, 46, 112, 97, 116, 104, 36] := by rfl

def sCustomtransfer : Bytes := [99, 117, 115, 116, 111, 109, 116, 114, 97, 110, 115, 102, 101, 114]
def sPath : Bytes := [112, 97, 116, 104]

/-- what that anchored pattern accepts: exactly `lfs.customtransfer.<name without a dot>.path` -/
def isAdapterPathKey (key : Bytes) : Bool :=
  let parts := splitOn 46 key []
  parts.length == 4 && parts[0]! == sLfs && parts[1]! == sCustomtransfer && !(parts[2]!).isEmpty && parts[3]! == sPath

theorem safeKeys_name_no_adapter : ∀ k ∈ Gen.safeKeys, isAdapterPathKey k = false := by decide

/-- NO key that `.lfsconfig` can get stored names a transfer agent: the keys that ride on the documented
    patterns `lfs.<url>.access` and `remote.<name>.lfsurl` end in `access` / `lfsurl`, not in `path` -/
theorem documented_never_names_an_adapter (key : Bytes) (h : Documented Gen.safeKeys key) :
    isAdapterPathKey key = false := by
  refine Bool.eq_false_iff.mpr fun hkey => ?_
  have hpath : (splitOn 46 key []).getLast! = sPath := by
    unfold isAdapterPathKey at hkey
    simp only [Bool.and_eq_true, beq_iff_eq] at hkey
    obtain ⟨⟨⟨⟨hlen, _⟩, _⟩, _⟩, hfourth⟩ := hkey
    -- of four components the last is the fourth
    rw [List.getLast!_eq_getLast?_getD, List.getLast?_eq_getElem?, hlen, ← List.getElem!_eq_getElem?_getD, hfourth]
  rcases h with h | ⟨_, _, hlast⟩ | ⟨_, _, hlast⟩
  · exact Bool.false_ne_true ((safeKeys_name_no_adapter key h).symm.trans hkey)
  · exact absurd (hpath.symm.trans hlast) (by decide)
  · exact absurd (hpath.symm.trans hlast) (by decide)

/-- the un-anchored reading of the same text (the defect D38): the key rides on `lfs.<url>.access` -/
example : Documented Gen.safeKeys
    [108,102,115,46,99,117,115,116,111,109,116,114,97,110,115,102,101,114,46,120,46,112,97,116,104,46,97,99,99,101,115,115] := by
  right; left; decide

/-- Git's own configuration wins over .lfsconfig also when Git's value is the EMPTY string — the way a user
    cancels a setting the repository supplies: the lookup returns it, not an earlier non-empty value -/
theorem git_config_empty_value_wins (lfsconfig gitconfig : Source) (key : Bytes)
    (h : Cfg.get (readSource Gen.safeKeys {} gitconfig) key = some []) :
    Cfg.get (readGitConfig Gen.safeKeys [lfsconfig, gitconfig]) key = some [] :=
  git_config_wins lfsconfig gitconfig key [] h

/-- an EMPTY configuration file (whose `git config -l -f` output is nothing, read as one empty line) contributes
    no key, no value and no "ignored unsafe key" — in particular not the key `""` with the value true
    (which is how the D67 repair in its first form read it) -/
theorem empty_file_contributes_nothing (safeKeys : List Cfg.Bytes) (os : Bool) (st : Cfg.State) :
    Cfg.readSource safeKeys st ⟨[[]], os⟩ = st :=
  rfl

/-! ties to config/git_fetcher.go (readGitConfig) as it is in /repo now -/
/-- a key of a safe-only source is let through without the allow-list in exactly three places: the priority of
    an extension, a key of the `remote` section (after the guard below), and a key whose FIRST component is `lfs`
    and whose LAST component is `access` (the wild card lfs.<url>.access, tested on the components, not by a
    pattern over the text) -/
theorem gen_keys_let_through :
    Gen.allowedAssignments =
      [
       -- true | len(parts) == 4 && parts[0] == "lfs" && parts[1] == "extension" && case "priority"
       [116, 114, 117, 101, 32, 124, 32, 108, 101, 110, 40, 112, 97, 114, 116, 115, 41, 32, 61, 61, 32, 52, 32, 38, 38, 32, 112, 97, 114, 116, 115, 91, 48, 93, 32, 61, 61, 32, 34, 108, 102, 115, 34, 32, 38, 38, 32, 112, 97, 114, 116, 115, 91, 49, 93, 32, 61, 61, 32, 34, 101, 120, 116, 101, 110, 115, 105, 111, 110, 34, 32, 38, 38, 32, 99, 97, 115, 101, 32, 34, 112, 114, 105, 111, 114, 105, 116, 121, 34],
       -- true | !(len(parts) == 4 && parts[0] == "lfs" && parts[1] == "extension") && len(parts) > 1 && parts[0] == "remote"
       [116, 114, 117, 101, 32, 124, 32, 33, 40, 108, 101, 110, 40, 112, 97, 114, 116, 115, 41, 32, 61, 61, 32, 52, 32, 38, 38, 32, 112, 97, 114, 116, 115, 91, 48, 93, 32, 61, 61, 32, 34, 108, 102, 115, 34, 32, 38, 38, 32, 112, 97, 114, 116, 115, 91, 49, 93, 32, 61, 61, 32, 34, 101, 120, 116, 101, 110, 115, 105, 111, 110, 34, 41, 32, 38, 38, 32, 108, 101, 110, 40, 112, 97, 114, 116, 115, 41, 32, 62, 32, 49, 32, 38, 38, 32, 112, 97, 114, 116, 115, 91, 48, 93, 32, 61, 61, 32, 34, 114, 101, 109, 111, 116, 101, 34],
       -- true | !(len(parts) == 4 && parts[0] == "lfs" && parts[1] == "extension") && !(len(parts) > 1 && parts[0] == "remote") && len(parts) > 2 && parts[0] == "lfs" && parts[len(parts)-1] == "access"
       [116, 114, 117, 101, 32, 124, 32, 33, 40, 108, 101, 110, 40, 112, 97, 114, 116, 115, 41, 32, 61, 61, 32, 52, 32, 38, 38, 32, 112, 97, 114, 116, 115, 91, 48, 93, 32, 61, 61, 32, 34, 108, 102, 115, 34, 32, 38, 38, 32, 112, 97, 114, 116, 115, 91, 49, 93, 32, 61, 61, 32, 34, 101, 120, 116, 101, 110, 115, 105, 111, 110, 34, 41, 32, 38, 38, 32, 33, 40, 108, 101, 110, 40, 112, 97, 114, 116, 115, 41, 32, 62, 32, 49, 32, 38, 38, 32, 112, 97, 114, 116, 115, 91, 48, 93, 32, 61, 61, 32, 34, 114, 101, 109, 111, 116, 101, 34, 41, 32, 38, 38, 32, 108, 101, 110, 40, 112, 97, 114, 116, 115, 41, 32, 62, 32, 50, 32, 38, 38, 32, 112, 97, 114, 116, 115, 91, 48, 93, 32, 61, 61, 32, 34, 108, 102, 115, 34, 32, 38, 38, 32, 112, 97, 114, 116, 115, 91, 108, 101, 110, 40, 112, 97, 114, 116, 115, 41, 45, 49, 93, 32, 61, 61, 32, 34, 97, 99, 99, 101, 115, 115, 34]
      ]
      := by rfl

/-- and a key is reported as ignored in exactly these places: extension keys of a safe-only source other than a
    priority (which orders the extensions Git's own configuration defines and is not stored), `remote`
    keys other than remote.<name>.lfsurl, and whatever is not let through and not on the allow-list -/
theorem gen_keys_ignored :
    Gen.ignoredAssignments =
      [
       -- append(ignored, key) | len(parts) == 4 && parts[0] == "lfs" && parts[1] == "extension" && gc.OnlySafeKeys && prop != "priority"
       [97, 112, 112, 101, 110, 100, 40, 105, 103, 110, 111, 114, 101, 100, 44, 32, 107, 101, 121, 41, 32, 124, 32, 108, 101, 110, 40, 112, 97, 114, 116, 115, 41, 32, 61, 61, 32, 52, 32, 38, 38, 32, 112, 97, 114, 116, 115, 91, 48, 93, 32, 61, 61, 32, 34, 108, 102, 115, 34, 32, 38, 38, 32, 112, 97, 114, 116, 115, 91, 49, 93, 32, 61, 61, 32, 34, 101, 120, 116, 101, 110, 115, 105, 111, 110, 34, 32, 38, 38, 32, 103, 99, 46, 79, 110, 108, 121, 83, 97, 102, 101, 75, 101, 121, 115, 32, 38, 38, 32, 112, 114, 111, 112, 32, 33, 61, 32, 34, 112, 114, 105, 111, 114, 105, 116, 121, 34],
       -- append(ignored, key) | len(parts) == 4 && parts[0] == "lfs" && parts[1] == "extension" && case "clean" && gc.OnlySafeKeys
       [97, 112, 112, 101, 110, 100, 40, 105, 103, 110, 111, 114, 101, 100, 44, 32, 107, 101, 121, 41, 32, 124, 32, 108, 101, 110, 40, 112, 97, 114, 116, 115, 41, 32, 61, 61, 32, 52, 32, 38, 38, 32, 112, 97, 114, 116, 115, 91, 48, 93, 32, 61, 61, 32, 34, 108, 102, 115, 34, 32, 38, 38, 32, 112, 97, 114, 116, 115, 91, 49, 93, 32, 61, 61, 32, 34, 101, 120, 116, 101, 110, 115, 105, 111, 110, 34, 32, 38, 38, 32, 99, 97, 115, 101, 32, 34, 99, 108, 101, 97, 110, 34, 32, 38, 38, 32, 103, 99, 46, 79, 110, 108, 121, 83, 97, 102, 101, 75, 101, 121, 115],
       -- append(ignored, key) | len(parts) == 4 && parts[0] == "lfs" && parts[1] == "extension" && case "smudge" && gc.OnlySafeKeys
       [97, 112, 112, 101, 110, 100, 40, 105, 103, 110, 111, 114, 101, 100, 44, 32, 107, 101, 121, 41, 32, 124, 32, 108, 101, 110, 40, 112, 97, 114, 116, 115, 41, 32, 61, 61, 32, 52, 32, 38, 38, 32, 112, 97, 114, 116, 115, 91, 48, 93, 32, 61, 61, 32, 34, 108, 102, 115, 34, 32, 38, 38, 32, 112, 97, 114, 116, 115, 91, 49, 93, 32, 61, 61, 32, 34, 101, 120, 116, 101, 110, 115, 105, 111, 110, 34, 32, 38, 38, 32, 99, 97, 115, 101, 32, 34, 115, 109, 117, 100, 103, 101, 34, 32, 38, 38, 32, 103, 99, 46, 79, 110, 108, 121, 83, 97, 102, 101, 75, 101, 121, 115],
       -- append(ignored, key) | !(len(parts) == 4 && parts[0] == "lfs" && parts[1] == "extension") && len(parts) > 1 && parts[0] == "remote" && gc.OnlySafeKeys && (len(parts) < 3 || parts[len(parts)-1] != "lfsurl")
       [97, 112, 112, 101, 110, 100, 40, 105, 103, 110, 111, 114, 101, 100, 44, 32, 107, 101, 121, 41, 32, 124, 32, 33, 40, 108, 101, 110, 40, 112, 97, 114, 116, 115, 41, 32, 61, 61, 32, 52, 32, 38, 38, 32, 112, 97, 114, 116, 115, 91, 48, 93, 32, 61, 61, 32, 34, 108, 102, 115, 34, 32, 38, 38, 32, 112, 97, 114, 116, 115, 91, 49, 93, 32, 61, 61, 32, 34, 101, 120, 116, 101, 110, 115, 105, 111, 110, 34, 41, 32, 38, 38, 32, 108, 101, 110, 40, 112, 97, 114, 116, 115, 41, 32, 62, 32, 49, 32, 38, 38, 32, 112, 97, 114, 116, 115, 91, 48, 93, 32, 61, 61, 32, 34, 114, 101, 109, 111, 116, 101, 34, 32, 38, 38, 32, 103, 99, 46, 79, 110, 108, 121, 83, 97, 102, 101, 75, 101, 121, 115, 32, 38, 38, 32, 40, 108, 101, 110, 40, 112, 97, 114, 116, 115, 41, 32, 60, 32, 51, 32, 124, 124, 32, 112, 97, 114, 116, 115, 91, 108, 101, 110, 40, 112, 97, 114, 116, 115, 41, 45, 49, 93, 32, 33, 61, 32, 34, 108, 102, 115, 117, 114, 108, 34, 41],
       -- append(ignored, key) | !allowed && keyIsUnsafe(key)
       [97, 112, 112, 101, 110, 100, 40, 105, 103, 110, 111, 114, 101, 100, 44, 32, 107, 101, 121, 41, 32, 124, 32, 33, 97, 108, 108, 111, 119, 101, 100, 32, 38, 38, 32, 107, 101, 121, 73, 115, 85, 110, 115, 97, 102, 101, 40, 107, 101, 121, 41]
      ]
      := by rfl

/-- an extension is DEFINED only by a source that is not safe-only; a priority read from .lfsconfig goes into the
    table entry of that name, and the names no trusted source defined are deleted from the table at the end:
    `.lfsconfig` orders extensions, it never registers one (Cfg.decide: `.skip` for the priority, `.ignore` for
    every other extension key of a safe-only source) -/
theorem gen_extension_definitions :
    Gen.extensionDefinitions =
      [
       -- true | len(parts) == 4 && parts[0] == "lfs" && parts[1] == "extension" && !gc.OnlySafeKeys
       [116, 114, 117, 101, 32, 124, 32, 108, 101, 110, 40, 112, 97, 114, 116, 115, 41, 32, 61, 61, 32, 52, 32, 38, 38, 32, 112, 97, 114, 116, 115, 91, 48, 93, 32, 61, 61, 32, 34, 108, 102, 115, 34, 32, 38, 38, 32, 112, 97, 114, 116, 115, 91, 49, 93, 32, 61, 61, 32, 34, 101, 120, 116, 101, 110, 115, 105, 111, 110, 34, 32, 38, 38, 32, 33, 103, 99, 46, 79, 110, 108, 121, 83, 97, 102, 101, 75, 101, 121, 115],
       -- ext | len(parts) == 4 && parts[0] == "lfs" && parts[1] == "extension"
       [101, 120, 116, 32, 124, 32, 108, 101, 110, 40, 112, 97, 114, 116, 115, 41, 32, 61, 61, 32, 52, 32, 38, 38, 32, 112, 97, 114, 116, 115, 91, 48, 93, 32, 61, 61, 32, 34, 108, 102, 115, 34, 32, 38, 38, 32, 112, 97, 114, 116, 115, 91, 49, 93, 32, 61, 61, 32, 34, 101, 120, 116, 101, 110, 115, 105, 111, 110, 34],
       -- extensions, name | !definedByGit[name]
       [101, 120, 116, 101, 110, 115, 105, 111, 110, 115, 44, 32, 110, 97, 109, 101, 32, 124, 32, 33, 100, 101, 102, 105, 110, 101, 100, 66, 121, 71, 105, 116, 91, 110, 97, 109, 101, 93]
      ]
      := by rfl

end C11
