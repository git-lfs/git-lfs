/-
C02 — A download that reports success left bytes hashing to the requested OID; a failed one left
the final location as it was.
The model (Download.lean) is the basic HTTP adapter's DoTransfer/download over an arbitrary finite
script of server answers; the temp file's bytes and the bytes fed to the hasher are SEPARATE state
components, so "forgot to reset the hash" would be a different model, not an invisible one.
-/
import LfsModel.Gen
import LfsModel.Download
import LfsModel.DownloadAlt
import LfsModel.DownloadConc

namespace C02
open Dl

variable (H : Bytes → Bytes)

/-- For every script of server behaviour, every `.part` state (absent, valid prefix, garbage, too
    long), every object size and EVERY prior content of the final path (absent, intact, or a corrupt
    file of any length — the same length included):
    success ⇒ the final file hashes to the oid;  failure ⇒ the final path is unchanged. -/
theorem basic_download_spec (oid : Bytes) (size : Nat) (fs : Files) (script : List Resp) :
    ((doTransfer H oid size fs script).1 = .ok →
        ∃ c, (doTransfer H oid size fs script).2.final = some c ∧ H c = oid) ∧
    ((doTransfer H oid size fs script).1 ≠ .ok →
        (doTransfer H oid size fs script).2.final = fs.final) :=
  doTransfer_spec H oid size fs script

theorem basic_success_hash (oid : Bytes) (size : Nat) (fs : Files) (script : List Resp)
    (hok : (doTransfer H oid size fs script).1 = .ok) :
    ∃ c, (doTransfer H oid size fs script).2.final = some c ∧ H c = oid :=
  (doTransfer_spec H oid size fs script).1 hok

theorem basic_failure_no_final_change (oid : Bytes) (size : Nat) (fs : Files) (script : List Resp)
    (hf : (doTransfer H oid size fs script).1 ≠ .ok) :
    (doTransfer H oid size fs script).2.final = fs.final :=
  (doTransfer_spec H oid size fs script).2 hf

/-- a corrupt file of the right length sitting at the final path is no success: the adapter never
    answers from what is already there, a success always carries freshly verified bytes -/
theorem success_replaces_corrupt_final (oid : Bytes) (size : Nat) (part : Option Bytes) (bad : Bytes)
    (script : List Resp) (hbad : H bad ≠ oid)
    (hok : (doTransfer H oid size ⟨part, some bad⟩ script).1 = .ok) :
    (doTransfer H oid size ⟨part, some bad⟩ script).2.final ≠ some bad := by
  obtain ⟨c, hc, hh⟩ := (doTransfer_spec H oid size ⟨part, some bad⟩ script).1 hok
  rw [hc]
  rintro ⟨⟩
  exact hbad hh

/-- the invariant that makes it work: at the comparison, what was hashed is what is in the file -/
theorem hasher_tracks_file (oid : Bytes) (t : Tmp) (r : Resp) (final : Option Bytes)
    (hinv : t.hashed = t.file) : (consume H oid t r final).2.1.hashed = (consume H oid t r final).2.1.file := by
  rw [consume_tmp, hinv]

/-- a whole retry sequence (the queue re-running the adapter on what the previous attempt left):
    the final path is intact after every attempt -/
def attempts (oid : Bytes) (size : Nat) : Files → List (List Resp) → Files
  | fs, [] => fs
  | fs, sc :: rest => attempts oid size (doTransfer H oid size fs sc).2 rest

theorem attempts_intact (oid : Bytes) (size : Nat) (scripts : List (List Resp)) :
    ∀ fs : Files, (∀ c, fs.final = some c → H c = oid) →
      ∀ c, (attempts H oid size fs scripts).final = some c → H c = oid := by
  induction scripts with
  | nil => intro fs h; exact h
  | cons sc rest ih =>
    intro fs hfin
    apply ih
    intro c hc
    have hs := doTransfer_spec H oid size fs sc
    by_cases hok : (doTransfer H oid size fs sc).1 = .ok
    · obtain ⟨c', h1, h2⟩ := hs.1 hok
      cases h1.symm.trans hc
      exact h2
    · exact hfin c (hs.2 hok ▸ hc)

/-- non-vacuity: garbage `.part`, wrong Content-Range, a bit-flipped body, then the right one -/
example : (doTransfer (fun b => b) [1,2,3] 3 ⟨some [9], none⟩
    [{ status := 206, rangeStart := some (some 0), body := [7] }, { status := 200, body := [1,2,3] }]).1 = .ok := rfl
example : (doTransfer (fun b => b) [1,2,3] 3 ⟨none, none⟩ [{ status := 200, body := [1,2,2] }]) =
    (.fail false false, ⟨some [1,2,2], none⟩) := rfl

/-! ### the other adapters of the quantifier: custom / standalone, pure SSH -/

/-- custom transfer agents (and the standalone `file://` agent): whatever the agent says — progress,
    a wrong oid, an error, a file that is a prefix, padded, bit-flipped, another object, or nothing at
    all — success ⇒ the final file hashes to the oid; failure ⇒ the final path is unchanged -/
theorem custom_download_spec (oid : Bytes) (msgs : List DlAlt.Msg) (final : Option Bytes) :
    ((DlAlt.customRun H oid msgs final).1 = .ok →
        ∃ c, (DlAlt.customRun H oid msgs final).2 = some c ∧ H c = oid) ∧
    ((DlAlt.customRun H oid msgs final).1 ≠ .ok → (DlAlt.customRun H oid msgs final).2 = final) :=
  DlAlt.customRun_spec H oid msgs final

/-- in particular a file made of the object followed by extra bytes is not accepted: the WHOLE file
    the agent names is what gets hashed and what gets moved -/
theorem custom_padded_file_refused (oid c pad : Bytes) (final : Option Bytes) (hpad : H (c ++ pad) ≠ oid) :
    DlAlt.customRun H oid [.complete true false (some (c ++ pad))] final = (.fail false false, final) :=
  if_neg hpad

/-- pure SSH transfer: the same dichotomy for every answer of the server -/
theorem ssh_download_spec (oid : Bytes) (r : DlAlt.SshResp) (final : Option Bytes) :
    ((DlAlt.sshRun H oid r final).1 = .ok → ∃ c, (DlAlt.sshRun H oid r final).2 = some c ∧ H c = oid) ∧
    ((DlAlt.sshRun H oid r final).1 ≠ .ok → (DlAlt.sshRun H oid r final).2 = final) :=
  DlAlt.sshRun_spec H oid r final

/-! ### 1..n concurrent processes fetching the same object -/

/-- ANY number of processes, ANY schedule of their steps (private temp file each, the `.part` file and
    the final path shared): in every reachable state the final path holds what it held at the start
    or bytes that hash to the oid -/
theorem concurrent_final_good (oid : Bytes) (part final : Option Bytes) (tr : List (Nat × DlConc.Act))
    (s' : DlConc.St) (hr : DlConc.run H oid (DlConc.init part final) tr = some s') :
    s'.final = final ∨ ∃ c, s'.final = some c ∧ H c = oid :=
  (DlConc.run_spec H oid _ s' tr (DlConc.init_inv part final) hr).2

/-- once a valid object is in place no process of any schedule ever replaces it by anything invalid -/
theorem concurrent_valid_stays (oid : Bytes) (part : Option Bytes) (c : Bytes) (hc : H c = oid)
    (tr : List (Nat × DlConc.Act)) (s' : DlConc.St)
    (hr : DlConc.run H oid (DlConc.init part (some c)) tr = some s') :
    ∃ c', s'.final = some c' ∧ H c' = oid :=
  DlConc.run_keeps_valid H oid _ s' tr (DlConc.init_inv part (some c)) ⟨c, rfl, hc⟩ hr

/-- non-vacuity: two processes, the second takes the first one's aborted `.part`, commits -/
example : (DlConc.run (fun b => b) [1, 2] (DlConc.init none none)
    [(0, .create), (0, .recv [1]), (1, .create), (0, .abort), (1, .takePart), (1, .load), (1, .recv [2]), (1, .commit)]).map (·.final)
    = some (some [1, 2]) := rfl

/-! tie to tq/basic_download.go as it is in /repo now -/
/-- what basicDownloadAdapter.DoTransfer does to the file system around the transfer itself: it removes ITS OWN
    temporary file at the end, opens that file for reading and writing, adopts the partial file by renaming it onto
    the temporary one, and hands it back by renaming only after a failed transfer.  There is no link and no second
    name for the bytes being written: no other process can reach the file this one writes (the trial change
    seeded/C02-partial-file-linked-during-transfer linked it under the `.part` name while the transfer ran) -/
theorem gen_basic_download_file_system_calls :
    Gen.basicDownloadFsCalls =
      [
       -- os.Remove: tmpName | 
       [111, 115, 46, 82, 101, 109, 111, 118, 101, 58, 32, 116, 109, 112, 78, 97, 109, 101, 32, 124, 32],
       -- os.OpenFile: f.Name(), os.O_RDWR, 0644 | 
       [111, 115, 46, 79, 112, 101, 110, 70, 105, 108, 101, 58, 32, 102, 46, 78, 97, 109, 101, 40, 41, 44, 32, 111, 115, 46, 79, 95, 82, 68, 87, 82, 44, 32, 48, 54, 52, 52, 32, 124, 32],
       -- a.downloadFilename(t), f.Name() | 
       [97, 46, 100, 111, 119, 110, 108, 111, 97, 100, 70, 105, 108, 101, 110, 97, 109, 101, 40, 116, 41, 44, 32, 102, 46, 78, 97, 109, 101, 40, 41, 32, 124, 32],
       -- f.Name(), a.downloadFilename(t) | err != nil
       [102, 46, 78, 97, 109, 101, 40, 41, 44, 32, 97, 46, 100, 111, 119, 110, 108, 111, 97, 100, 70, 105, 108, 101, 110, 97, 109, 101, 40, 116, 41, 32, 124, 32, 101, 114, 114, 32, 33, 61, 32, 110, 105, 108]
      ]
      := by rfl

end C02
