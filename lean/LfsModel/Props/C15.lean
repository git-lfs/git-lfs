/-
C15 — Retries are bounded, spaced as configured, and never overlap for one object.
-/
import LfsModel.AuthLoop
import LfsModel.Gen
import LfsModel.TQRetry
import LfsModel.Backoff
import LfsModel.Expiry

namespace C15
open TQ

theorem gen_baseRetryDelayMs : Gen.baseRetryDelayMs = 250 := rfl
theorem gen_defaultMaxRetries : Gen.defaultMaxRetries = 8 := rfl
theorem gen_defaultMaxRetryDelay : Gen.defaultMaxRetryDelay = 10 := rfl
/-- an action is not used when it expires within 5 s -/
theorem gen_expiry_margin : Gen.objectExpirationToTransferNs = 5 * 1000000000 := rfl

/-- ATTEMPTS BOUNDED: in every reachable state the retry counter of every object is at most the
    configured maximum; an object is re-batched only after a counted retry, so it is attempted at
    most 1 + maxRetries times. -/
theorem attempts_bounded (cap bs mr : Nat) (es : List Ev) (s : State)
    (hr : run { cap := cap, batchSize := bs, maxRetries := mr } es = some s) : ∀ o, s.rc o ≤ mr := by
  obtain ⟨h, hm⟩ := run_rc es (fun _ => Nat.zero_le _) hr
  intro o
  exact Nat.le_trans (h o) (Nat.le_of_eq hm)

/-- a retry is counted: `retryOrFail` either increments the counter (budget left) or ends the object -/
theorem retry_counts_or_ends (s : State) (o : Oid) :
    ((retryOrFail s o).st o = .retryOut ∧ (retryOrFail s o).rc o = s.rc o + 1 ∧ s.rc o < s.maxRetries) ∨
    ((retryOrFail s o).st o = .term .errored ∧ ¬ s.rc o < s.maxRetries) := by
  unfold retryOrFail
  split
  · next h => exact .inl ⟨set_same .., set_same .., h⟩
  · next h => exact .inr ⟨(congrFun (done_st _) o).trans (set_same ..), h⟩

/-- NON-RETRIABLE IS TERMINAL: a fatal (or 422) adapter outcome ends the object, and a terminal
    object never changes status again, whatever happens afterwards. -/
theorem nonretriable_terminal (s s' : State) (o : Oid) (out : Outcome) (ho : out = .fatal ∨ out = .unprocessable)
    (hs : step s (.jobResult o out) = some s') : s'.st o = .term .errored := by
  obtain ⟨_, hs⟩ := Option.ite_none_right_eq_some.mp hs
  rcases ho with rfl | rfl <;> (cases hs; rw [done_st]; exact set_same _ _ _)

theorem terminal_stays_terminal {s s' : State} {e : Ev} {o : Oid} {t : Term} (ht : s.st o = .term t)
    (hs : step s e = some s') : s'.st o = .term t := term_absorbing ht hs

/-- NEVER TWO IN FLIGHT: a batch can only take objects that are waiting, so an object whose transfer
    is in progress (`job`) or whose reply is pending (`inBatch`) is never handed out again. -/
theorem single_inflight (s s' : State) (os : List Oid) (hs : step s (.batchStart os) = some s') :
    os.Nodup ∧ ∀ o ∈ os, s.st o = .waiting := by
  obtain ⟨⟨_, _, hnd, hw, _⟩, _⟩ := Option.ite_none_right_eq_some.mp hs
  exact ⟨hnd, hw⟩

/-- an expired action is never handed to the adapter: it is retried (re-requested) or ends the object -/
theorem expired_action_not_used (s s' : State) (o : Oid) (hs : step s (.reply o .expiredAction) = some s') :
    s'.st o ≠ .job := by
  obtain ⟨_, hs⟩ := Option.ite_none_right_eq_some.mp hs
  cases hs
  rcases retry_counts_or_ends s o with ⟨h, _, _⟩ | ⟨h, _⟩ <;> (rw [h]; nofun)

/-! ### back-off arithmetic on wrapped uint64 (retryCounter.ReadyTime) -/

/-- the wait never exceeds the configured maximum — including count ≥ 65, where Go's shift yields 0 -/
theorem backoff_le_max (maxMs count : Nat) : Backoff.delayMs Gen.baseRetryDelayMs maxMs count ≤ maxMs :=
  Backoff.delay_le_max _ _ _

theorem backoff_exact_until_cap (maxMs count : Nat) (hc : 1 ≤ count) (hle : 250 * 2 ^ (count - 1) ≤ maxMs)
    (hm : maxMs < 2 ^ 64) : Backoff.delayMs Gen.baseRetryDelayMs maxMs count = 250 * 2 ^ (count - 1) :=
  Backoff.delay_exact 250 maxMs count hc (by decide) hle hm

theorem backoff_capped_after (maxMs count : Nat) (hc : 1 ≤ count) (hgt : maxMs < 250 * 2 ^ (count - 1))
    (hm : maxMs < 2 ^ 57) : Backoff.delayMs Gen.baseRetryDelayMs maxMs count = maxMs :=
  Backoff.delay_capped maxMs count hc hgt hm

/-! ### the manifest's reading of lfs.transfer.maxretrydelay (tq/manifest.go after the D5 repair) -/
def resolveMaxRetryDelay (configured : Option Int) (dflt : Nat) : Nat :=
  match configured with
  | none => dflt
  | some v => if v < 0 then dflt else v.toNat

/-- zero means zero ("use zero to disable delays between retries"), and then no back-off wait at all -/
theorem configured_zero_means_zero (count : Nat) :
    resolveMaxRetryDelay (some 0) Gen.defaultMaxRetryDelay = 0 ∧
    Backoff.delayMs Gen.baseRetryDelayMs (1000 * resolveMaxRetryDelay (some 0) Gen.defaultMaxRetryDelay) count = 0 :=
  ⟨rfl, Nat.eq_zero_of_le_zero (Backoff.delay_le_max Gen.baseRetryDelayMs (1000 * 0) count)⟩
/-- the refuted variant (pinned tree: `< 1` instead of `< 0`), kept as the D5 witness -/
theorem d5_zero_became_default : (fun (v : Int) (d : Nat) => if v < 1 then d else v.toNat) 0 10 = 10 := by decide

/-! ### batch.Concat: nothing is batched before its ready time -/
def concatLeft (now : Nat) (u : List (Oid × Nat)) : List (Oid × Nat) := u.filter (fun p => decide (p.2 < now))

theorem not_before_ready_time (now : Nat) (u : List (Oid × Nat)) : ∀ p ∈ concatLeft now u, p.2 < now :=
  fun _ hp => of_decide_eq_true (List.mem_filter.mp hp).2

/-- non-vacuity: budget 1 — the first failure is retried, the second ends the object -/
example : ∃ s, run { cap := 2, batchSize := 1, maxRetries := 1 }
    [.add 3, .collTake 3, .batchStart [3], .reply 3 .action, .jobResult 3 .retriable, .batchEnd 3,
     .batchStart [3], .reply 3 .action, .jobResult 3 .retriable] = some s ∧ s.st 3 = .term .errored ∧ s.rc 3 = 1 := by
  exact ⟨_, rfl, rfl, rfl⟩

/-! ### when an offered action may still be used (the arithmetic behind the abstract `.expiredAction` reply) -/

/-- an action the code hands out has not expired — nor will it within the safety margin -/
theorem handed_out_action_not_expired (a : Expiry.Action) (now margin : Int) (hm : 0 ≤ margin)
    (h : Expiry.usable a now margin = true) :
    ∀ e, Expiry.expiration a = some e → now ≤ e ∧ now + margin ≤ e :=
  fun e he => ⟨Expiry.usable_not_expired a now margin hm h e he, (Expiry.usable_iff ..).mp h e he⟩

/-- `expires_in`, counted from the client's own request time, decides whenever it is given; an
    `expires_at` beside it (on the server's clock) changes nothing -/
theorem expires_in_decides (createdAt inS : Int) (at1 at2 : Option Int) (h : inS ≠ 0) (now margin : Int) :
    Expiry.usable ⟨createdAt, at1, inS⟩ now margin = Expiry.usable ⟨createdAt, at2, inS⟩ now margin := by
  rw [Bool.eq_iff_iff, Expiry.usable_iff, Expiry.usable_iff, Expiry.expires_in_wins _ h, Expiry.expires_in_wins _ h]

/-- waiting never makes an expired action usable again: a check at the moment of use is at least as
    strict as the check when the answer arrived -/
theorem check_at_use_is_stricter (a : Expiry.Action) (t0 t1 margin : Int) (hle : t0 ≤ t1)
    (h : Expiry.usable a t1 margin = true) : Expiry.usable a t0 margin = true :=
  Expiry.usable_mono a t0 t1 margin hle h

/-- non-vacuity: expires_in 6 s, asked 2.3 s and 6.6 s after the request, margin 5 s -/
example : Expiry.usable ⟨0, none, 6⟩ 500 5000 = true ∧ Expiry.usable ⟨0, none, 6⟩ 2300 5000 = false ∧
    Expiry.usable ⟨0, some 3600000, 6⟩ 6600 0 = false := by decide

/-! ### re-authentication is bounded too (lfsapi.Client.DoWithAuth) -/

/-- a request answered with an authentication error is submitted again only while resubmissions are left: at most
    `fuel + 1` submissions, whatever the server answers and whatever the credential helper hands out -/
theorem auth_resubmissions_bounded (again : Nat → Bool) (fuel k : Nat) :
    AuthLoop.submissions again fuel k ≤ fuel + 1 := AuthLoop.submissions_le again fuel k

/-- a server that always refuses, with a helper that always answers: exactly `fuel + 1` (D73: before the repair there was no bound) -/
theorem auth_resubmissions_always_refused (fuel k : Nat) :
    AuthLoop.submissions (fun _ => true) fuel k = fuel + 1 := AuthLoop.submissions_always fuel k

/-- ties to lfsapi/auth.go as it is in /repo now: DoWithAuth starts with `defaultMaxAuthAttempts` resubmissions, the
    only further call passes one less and stands under `resubmissions > 0` -/
theorem gen_auth_resubmission :
    Gen.defaultMaxAuthAttempts = 3 ∧
    Gen.authResubmitEntry =
      [
       -- remote, access, req, defaultMaxAuthAttempts | 
       [114, 101, 109, 111, 116, 101, 44, 32, 97, 99, 99, 101, 115, 115, 44, 32, 114, 101, 113, 44, 32, 100, 101, 102, 97, 117, 108, 116, 77, 97, 120, 65, 117, 116, 104, 65, 116, 116, 101, 109, 112, 116, 115, 32, 124, 32]
      ] ∧
    Gen.authResubmitAgain =
      [
       -- remote, newAccess, req, resubmissions - 1 | errors.IsAuthError(err) && resubmissions > 0 && len(req.Header.Get("Authorization")) == 0
       [114, 101, 109, 111, 116, 101, 44, 32, 110, 101, 119, 65, 99, 99, 101, 115, 115, 44, 32, 114, 101, 113, 44, 32, 114, 101, 115, 117, 98, 109, 105, 115, 115, 105, 111, 110, 115, 32, 45, 32, 49, 32, 124, 32, 101, 114, 114, 111, 114, 115, 46, 73, 115, 65, 117, 116, 104, 69, 114, 114, 111, 114, 40, 101, 114, 114, 41, 32, 38, 38, 32, 114, 101, 115, 117, 98, 109, 105, 115, 115, 105, 111, 110, 115, 32, 62, 32, 48, 32, 38, 38, 32, 108, 101, 110, 40, 114, 101, 113, 46, 72, 101, 97, 100, 101, 114, 46, 71, 101, 116, 40, 34, 65, 117, 116, 104, 111, 114, 105, 122, 97, 116, 105, 111, 110, 34, 41, 41, 32, 61, 61, 32, 48]
      ] := ⟨by rfl, by rfl, by rfl⟩

/-- hence one API request goes out at most four times -/
theorem api_request_sent_at_most_four_times (again : Nat → Bool) (k : Nat) :
    AuthLoop.submissions again Gen.defaultMaxAuthAttempts k ≤ 4 :=
  AuthLoop.submissions_le again Gen.defaultMaxAuthAttempts k

/-- tie to tq/transfer.go: Action.IsExpiredWithin hands both expiry fields of the action to tools.IsExpiredAtOrIn as
    they are, unconditionally — the precedence between them (expires_in wins) is Expiry.expiration's, not decided here -/
theorem gen_action_expiry_uses_both_fields :
    Gen.actionExpiryArgs =
      [
       -- a.createdAt, d, a.ExpiresAt, time.Duration(a.ExpiresIn) * time.Second | 
       [97, 46, 99, 114, 101, 97, 116, 101, 100, 65, 116, 44, 32, 100, 44, 32, 97, 46, 69, 120, 112, 105, 114, 101, 115, 65, 116, 44, 32, 116, 105, 109, 101, 46, 68, 117, 114, 97, 116, 105, 111, 110, 40, 97, 46, 69, 120, 112, 105, 114, 101, 115, 73, 110, 41, 32, 42, 32, 116, 105, 109, 101, 46, 83, 101, 99, 111, 110, 100, 32, 124, 32]
      ] := by rfl

end C15
