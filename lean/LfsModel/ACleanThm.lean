import LfsModel.AClean
import LfsModel.AStreamLemmas
/-
The toy clean filter of AClean (cutoff 8, a stand-in pointer test) with `io.ReadFull` as its first read: its outcome
is a function of the bytes alone (`spec`), so it does not depend on the chunking — the D1 argument in its smallest
form.  Filter.lean and FilterProofs carry it out with the pointer decoder.
-/
namespace LfsA
open LfsA.Stream

theorem readFullAux_eof_of_empty : ∀ (fuel : Nat) (s : Stream) (n : Nat) (acc : Bytes),
    0 < fuel → 0 < n → s.data = [] → (readFullAux fuel s n acc).2.1 = true :=
  Stream.readFullAux_eof_of_empty

theorem clean_full_eq_spec (s : Stream) : clean .full s = spec s.data := by
  have hc : 0 < cut := by decide
  obtain ⟨eof, s', hr, hrest, heof⟩ := readFull_eq s cut
  simp only [clean, decodeFrom, hr, hrest, List.take_append_drop, isEmpty_take hc, isEmpty_and_eof (heof hc),
    spec]
  by_cases hlen : s.data.length < cut
  · rw [List.take_of_length_le (Nat.le_of_lt hlen)]
  · -- a full window is not a pointer, on either side
    simp only [List.length_take_of_le (Nat.le_of_not_lt hlen), Nat.lt_irrefl, hlen, decide_false, Bool.and_false,
      Bool.false_eq_true, if_false]

#print axioms clean_full_eq_spec

theorem clean_full_chunk_independent (s t : Stream) (h : s.data = t.data) : clean .full s = clean .full t := by
  rw [clean_full_eq_spec, clean_full_eq_spec, h]
end LfsA
