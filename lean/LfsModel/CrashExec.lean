import LfsModel.Crash
import LfsModel.CrashIno
/-
Executable replay of an observed file-system operation list in the storage model of Crash.lean
(used by the C09 correspondence: the traced operations of a real run must RUN under `Crash.step`,
i.e. satisfy the storage discipline that `prefix_intact` presupposes).
Names are mapped to numbers by `String.hash`; content is represented by the bytes of its SHA-256 hex
string and `H` maps those bytes to the same number space, so `H content = oid` iff the file's hash
equals the object's name.
-/
namespace CrashExec
open Crash

def nameId (s : String) : Nat := s.hash.toNat
def H (c : Bytes) : Oid := nameId (String.ofList (c.map fun b => Char.ofNat b.toNat))
def contentOf (sha : String) : Bytes := sha.toUTF8.toList

def pathOf (area name : String) : Path :=
  if area == "objects" then .obj (nameId name)
  else if area == "bad" then .bad (nameId name)
  else if area == "incomplete" && name.endsWith ".part" then .part (nameId name)
  else .tmp (nameId (area ++ "/" ++ name))

inductive Word
  | have_ (area name sha : String)           -- pre-existing file (initial state, not an operation)
  | create (area name : String)
  | move (isLink : Bool) (sa sn da dn sha : String)   -- rename/link; sha = hash of the file that arrives at dst
  | unlink (area name : String)

/-- returns the index of the first operation the model refuses, if any -/
def replay : Fs → List Word → Nat → Option Nat
  | _, [], _ => none
  | fs, w :: ws, i =>
    match w with
    | .have_ a n sha => replay (upd fs (pathOf a n) (some (contentOf sha))) ws (i + 1)
    | .create a n => (match step H fs (.create (pathOf a n)) with
        | some fs' => replay fs' ws (i + 1) | none => some i)
    | .unlink a n => (match step H fs (.unlink (pathOf a n)) with
        | some fs' => replay fs' ws (i + 1) | none => some i)
    | .move isLink sa sn da dn sha =>
      let src := pathOf sa sn
      let dst := pathOf da dn
      -- the write bursts are not traced: a temp/part source receives its content just before the move
      let fs1 : Fs := if isObj src then fs else upd fs src (some (contentOf sha))
      -- nothing is prepared per kind of move: that a rename replaces an existing target and a link requires its
      -- target to be absent is decided by `Crash.step` below
      let fs2 : Fs := if isLink then fs1 else fs1
      (match step H fs2 (if isLink then .link src dst else .rename src dst) with
        | some fs' => replay fs' ws (i + 1) | none => some i)

/-! ### the same replay in the model with hard links (CrashIno.lean) -/

inductive WordI
  | w (x : Word)
  | write (area name : String)      -- an EXISTING file is opened for writing (resume: truncate and/or append)

/-- index of the first operation the inode model refuses, if any -/
def replayI : CrashI.Fs → List WordI → Nat → Option Nat
  | _, [], _ => none
  | fs, x :: ws, i =>
    match x with
    | .write a n => (match CrashI.step H fs (.truncate (pathOf a n)) with
        | some fs' => replayI fs' ws (i + 1) | none => some i)
    | .w (.have_ a n sha) =>
      let fs1 : CrashI.Fs := { (CrashI.setName (CrashI.setData fs fs.next (contentOf sha)) (pathOf a n) fs.next) with next := fs.next + 1 }
      replayI fs1 ws (i + 1)
    | .w (.create a n) => (match CrashI.step H fs (.create (pathOf a n)) with
        | some fs' => replayI fs' ws (i + 1) | none => some i)
    | .w (.unlink a n) => (match CrashI.step H fs (.unlink (pathOf a n)) with
        | some fs' => replayI fs' ws (i + 1) | none => some i)
    | .w (.move isLink sa sn da dn sha) =>
      let src := pathOf sa sn
      let dst := pathOf da dn
      -- the write bursts are not traced: a temp/part source has received its content by now — through an
      -- inode that no object name may share
      let fs1? : Option CrashI.Fs :=
        if isObj src then some fs else
        match CrashI.lookup fs src with
        | none => some { (CrashI.setName (CrashI.setData fs fs.next (contentOf sha)) src fs.next) with next := fs.next + 1 }
        | some j =>
          if fs.data j == contentOf sha then some fs
          else if CrashI.aliasedToObj fs j then none
          else some (CrashI.setData fs j (contentOf sha))
      match fs1? with
      | none => some i
      | some fs1 =>
        (match CrashI.step H fs1 (if isLink then .link src dst else .rename src dst) with
          | some fs' => replayI fs' ws (i + 1) | none => some i)

end CrashExec
