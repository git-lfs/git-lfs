/-
lfshttp.doWithRedirects / newRequestForRetry and lfsapi.doWithAuth / getCreds as one
recursive function emitting the trace of requests: the abstract model of the code before the D6 and D26 repairs
(the `threadVia` switch is D6).  The C10 theorems are proved of `Rd2` (RedirectModel, RedirectProofs); Props/C10
takes from here the D6 and D26 witnesses only.  Core-only.
-/
namespace Rd

inductive Scheme | http | https deriving DecidableEq, Repr

structure Origin where
  scheme : Scheme
  host : Nat            -- the textual `URL.Host` (name and, if written, port), abstracted to a Nat
deriving DecidableEq, Repr

/-- a request as the servers see it: where it goes, and for which origin the Authorization value
it carries (if any) was obtained or computed -/
structure Req where
  dst : Origin
  path : Nat
  auth : Option Origin
deriving DecidableEq, Repr

inductive Ans
  | final (status : Nat)
  | redirect (loc : Origin) (path : Nat)
  | unauthorized
deriving Repr

abbrev World := Req → Ans

/-- lfshttp.newRequestForRetry -/
def retryReq (r : Req) (loc : Origin) (path : Nat) : Option Req :=
  if r.dst.scheme = .https ∧ loc.scheme = .http then none            -- refusing insecure redirect
  else some { dst := loc, path := path,
              auth := if r.dst.host = loc.host then r.auth else none }   -- compares URL.Host only

/-- lfsapi.getCreds + setRequestAuth*: a request that has no Authorization gets one looked up under
`getCredURLForAPI`: its own URL when scheme or host differ from the API's, else the API / remote URL
(which has the API's, hence the request's, scheme and host).  `haveCreds` = the helper/netrc/URL
yields something. -/
def attach (haveCreds : Bool) (r : Req) : Req :=
  match r.auth with
  | some _ => r
  | none => if haveCreds then { r with auth := some r.dst } else r

/-- doWithAuth ∘ doWithCreds ∘ DoWithRedirect.  `threadVia` = whether the grown `via` is what the
recursion passes on (pinned code: false — the callee's append is lost).  Returns the trace. -/
def run (w : World) (haveCreds threadVia : Bool) (maxVia : Nat) : Nat → Nat → Nat → Req → List Req
  | 0, _, _, _ => []
  | fuel+1, via, authTries, r0 =>
    let r := attach haveCreds r0
    r :: match w r with
      | .final _ => []
      | .unauthorized =>
        -- creds rejected, header deleted; DoWithAuth resubmits (bounded here by authTries)
        if authTries = 0 then [] else run w haveCreds threadVia maxVia fuel via (authTries - 1) { r with auth := none }
      | .redirect loc p =>
        if via + 1 ≥ maxVia then []                                   -- "too many redirects"
        else match retryReq r loc p with
          | none => []
          | some r' => run w haveCreds threadVia maxVia fuel (if threadVia then via + 1 else via) authTries r'

/-- confinement in the code's own terms: same textual host; the scheme may only have been upgraded -/
def Confined (r : Req) : Prop :=
  match r.auth with
  | none => True
  | some o => o.host = r.dst.host ∧ (o.scheme = r.dst.scheme ∨ (o.scheme = .http ∧ r.dst.scheme = .https))

/-- confinement as the property states it: same scheme and host (hence same effective port) -/
def ConfinedStrict (r : Req) : Prop :=
  match r.auth with
  | none => True
  | some o => o = r.dst

theorem attach_confined (hc : Bool) (r : Req) (h : Confined r) : Confined (attach hc r) := by
  fun_cases attach hc r
  · exact h
  · exact ⟨rfl, .inl rfl⟩
  · exact h

/-- between the two schemes, "equal, or upgraded from http to https" is "not downgraded" -/
theorem upgraded_iff {a b : Scheme} : (a = b ∨ (a = .http ∧ b = .https)) ↔ ¬ (a = .https ∧ b = .http) := by
  cases a <;> cases b <;> decide

theorem retry_confined (r r' : Req) (loc : Origin) (p : Nat) (h : Confined r)
    (hr : retryReq r loc p = some r') : Confined r' := by
  obtain ⟨hnd, hr⟩ := Option.ite_none_left_eq_some.mp hr
  cases hr
  unfold Confined at h ⊢
  split
  · trivial
  · next o ho =>
    obtain ⟨hh, ho⟩ := Option.ite_none_right_eq_some.mp ho
    rw [ho] at h
    -- no downgrade from the label to the old destination, none from there to the new one
    refine ⟨h.1.trans hh, upgraded_iff.mpr fun ⟨hs, hl⟩ => ?_⟩
    cases hd : r.dst.scheme with
    | http => exact upgraded_iff.mp h.2 ⟨hs, hd⟩
    | https => exact hnd ⟨hd, hl⟩

/-- every request of a trace of this model is `Confined` (the code's notion; not `ConfinedStrict`, see D26 below) -/
theorem run_confined (w : World) (hc tv : Bool) (mv : Nat) :
    ∀ (fuel via tries : Nat) (r : Req), Confined r → ∀ q ∈ run w hc tv mv fuel via tries r, Confined q := by
  intro fuel
  induction fuel with
  | zero => intro _ _ _ _ q hq; cases hq
  | succ fuel ih =>
    intro via tries r hr q hq
    have ha := attach_confined hc r hr
    rcases List.mem_cons.mp hq with rfl | hq
    · exact ha
    · split at hq           -- by the server's answer
      · cases hq            -- final: the trace ends
      · split at hq         -- unauthorized: resubmitted without a header, if tries are left
        · cases hq
        · exact ih via (tries - 1) _ (by trivial) q hq
      · split at hq         -- redirect: followed below the limit, if `retryReq` accepts it
        · cases hq
        · split at hq
          · cases hq
          · next r' hr' => exact ih _ tries r' (retry_confined _ _ _ _ ha hr') q hq

theorem retry_no_downgrade (r r' : Req) (loc : Origin) (p : Nat) (hr : retryReq r loc p = some r') :
    ¬ (r.dst.scheme = .https ∧ r'.dst.scheme = .http) := by
  obtain ⟨h, hr⟩ := Option.ite_none_left_eq_some.mp hr
  cases hr
  exact h

/-- the trace of this model is bounded by `maxVia` when `via` is threaded … -/
theorem run_length_threaded (w : World) (hc : Bool) (mv : Nat) :
    ∀ (fuel via : Nat) (r : Req), via ≤ mv → (run w hc true mv fuel via 0 r).length ≤ mv - via + 1 := by
  intro fuel
  induction fuel with
  | zero => intro _ _ _; exact Nat.zero_le _
  | succ fuel ih =>
    intro via r _
    rw [run, List.length_cons]
    apply Nat.succ_le_succ
    split
    · exact Nat.zero_le _
    · exact Nat.zero_le _
    · split
      · exact Nat.zero_le _
      · next hlt =>
        split
        · exact Nat.zero_le _
        · next r' _ =>
          have h : via + 1 < mv := Nat.lt_of_not_le hlt
          exact Nat.le_trans (ih (via + 1) r' (Nat.le_of_lt h))
            (Nat.sub_lt_sub_left (Nat.lt_of_succ_lt h) (Nat.lt_succ_self via))

/-- … and fails for the pinned code (`threadVia = false`): a world that always redirects to the same
origin is followed for as long as the fuel lasts (D6). -/
def loopWorld : World := fun r => .redirect r.dst (r.path + 1)
example : (run loopWorld false false 3 50 0 0 ⟨⟨.https, 1⟩, 0, none⟩).length = 50 := by decide

/-- D26: the strict reading fails on an http → https redirect to the same textual host -/
def upgradeWorld : World := fun r => if r.dst.scheme = .http then .redirect ⟨.https, r.dst.host⟩ 0 else .final 200
example : ∃ q ∈ run upgradeWorld true true 3 5 0 0 ⟨⟨.http, 7⟩, 0, none⟩, ¬ ConfinedStrict q := by
  refine ⟨⟨⟨.https, 7⟩, 0, some ⟨.http, 7⟩⟩, by decide, by simp [ConfinedStrict]⟩

#print axioms run_confined
#print axioms run_length_threaded
end Rd
