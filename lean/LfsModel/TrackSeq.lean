/-
commands/command_track.go trackCommand / command_untrack.go untrackCommand as operations on the lines of
the .gitattributes file of the current directory (top level, one argument per call).
A line is what the commands look at: its first field (unescaped), whether it assigns `filter` at all and
whether that is `filter=lfs`, whether it sets `lockable`, and a tag standing for everything else on it.
Lines without a field (blank lines) are dropped by the rewrite and are not part of the state.
Core-only, executable (Oracle `C19 seq`).
-/
namespace TrkSeq
abbrev Bytes := List UInt8

structure Line where
  pat : Bytes
  hasFilter : Bool
  lfs : Bool
  lockable : Bool
  tag : Nat
deriving DecidableEq, Repr

inductive Flag | none | lock | unlock
deriving DecidableEq, Repr

/-- git.GetAttributePaths lists a line when it assigns `filter` or sets `lockable` -/
def known (l : Line) : Bool := l.hasFilter || l.lockable

def flagOK : Flag → Line → Bool
  | .lock, l => l.lockable
  | .unlock, l => !l.lockable
  | .none, _ => true

/-- path.Join(".", p) for the patterns of interest: a leading slash goes -/
def joinDot : Bytes → Bytes
  | 47 :: rest => rest
  | p => p

/-- the comparison of a known pattern with the argument: with the argument joined to the current
    directory (which drops a leading slash), or — at the top level — with the argument as it stands -/
def sameAs (l : Line) (p : Bytes) : Bool := l.pat == joinDot p || l.pat == p

/-- a known line spells the argument exactly as given -/
def exact (ls : List Line) (p : Bytes) : Bool := ls.any fun l => known l && l.pat == p

/-- the known lines this call is about: those that spell the pattern exactly, and only when there is none
    those that merely cover it (`x.bin` for `/x.bin`) — D77 -/
def about (ls : List Line) (p : Bytes) (l : Line) : Bool :=
  known l && (if exact ls p then l.pat == p else sameAs l p)

/-- "already supported": a known line for this pattern that assigns filter=lfs and whose lockable
    state needs no change -/
def already (ls : List Line) (p : Bytes) (f : Flag) : Bool :=
  ls.any fun l => about ls p l && l.lfs && flagOK f l

/-- without --not-lockable, a lockable line for the pattern keeps the rewritten line lockable -/
def keepLock (ls : List Line) (p : Bytes) (f : Flag) : Bool :=
  f != .unlock && ls.any fun l => about ls p l && l.lockable

/-- the line `git lfs track` writes -/
def newLine (p : Bytes) (lockable : Bool) : Line := ⟨p, true, true, lockable, 0⟩

/-- the merge loop: the FIRST line whose first field is the pattern is replaced -/
def replaceFirst (p : Bytes) (nl : Line) : List Line → Option (List Line)
  | [] => none
  | l :: rest =>
    if l.pat == p then some (nl :: rest)
    else match replaceFirst p nl rest with
      | some r => some (l :: r)
      | none => none

def track (ls : List Line) (p : Bytes) (f : Flag) : List Line :=
  if already ls p f then ls
  else
    let nl := newLine p (f == .lock || keepLock ls p f)
    match replaceFirst p nl ls with
    | some r => r
    | none => ls ++ [nl]

/-- untrack drops the lines that carry filter=lfs for this pattern -/
def untrack (ls : List Line) (p : Bytes) : List Line := ls.filter fun l => !(l.lfs && l.pat == p)

inductive Op
  | track (p : Bytes) (f : Flag)
  | untrack (p : Bytes)

def step (ls : List Line) : Op → List Line
  | .track p f => track ls p f
  | .untrack p => untrack ls p

def run (ls : List Line) (ops : List Op) : List Line := ops.foldl step ls

theorem replaceFirst_eq_some {p : Bytes} {nl : Line} {ls r : List Line} (h : replaceFirst p nl ls = some r) :
    ∃ a l b, l.pat = p ∧ ls = a ++ l :: b ∧ r = a ++ nl :: b := by
  fun_induction replaceFirst p nl ls generalizing r with
  | case1 => cases h
  | case2 l rest hl =>
    cases h
    exact ⟨[], l, rest, beq_iff_eq.mp hl, rfl, rfl⟩
  | case3 l rest _ r' hr ih =>
    cases h
    obtain ⟨a, l', b, hl', rfl, rfl⟩ := ih hr
    exact ⟨l :: a, l', b, hl', rfl, rfl⟩
  | case4 => cases h

theorem already_iff {ls : List Line} {p : Bytes} {f : Flag} :
    already ls p f = true ↔ ∃ l ∈ ls, about ls p l = true ∧ l.lfs = true ∧ flagOK f l = true := by
  simp [already, and_assoc]

theorem about_same {ls : List Line} {p : Bytes} {l : Line} (h : about ls p l = true) :
    l.pat = joinDot p ∨ l.pat = p := by
  rw [about, Bool.and_eq_true] at h
  split at h
  · exact Or.inr (beq_iff_eq.mp h.2)
  · simpa [sameAs] using h.2

theorem exact_of_mem {ls : List Line} {l : Line} (hl : l ∈ ls) (hk : known l = true) : exact ls l.pat = true := by
  simp only [exact, List.any_eq_true, Bool.and_eq_true]
  exact ⟨l, hl, hk, by simp⟩

theorem about_self {ls : List Line} {l : Line} (hl : l ∈ ls) (hk : known l = true) : about ls l.pat l = true := by
  simp [about, hk, exact_of_mem hl hk]

theorem track_cases (ls : List Line) (p : Bytes) (f : Flag) :
    already ls p f = true ∧ track ls p f = ls ∨
    newLine p (f == .lock || keepLock ls p f) ∈ track ls p f := by
  -- nothing to do; the first line about `p` replaced; a line appended
  fun_cases track ls p f
  · next h => exact .inl ⟨h, rfl⟩
  · next nl r hr =>
    obtain ⟨a, l, b, _, _, rfl⟩ := replaceFirst_eq_some hr
    exact .inr (by simp [nl])
  · next nl _ => exact .inr (by simp [nl])

theorem track_others (ls : List Line) (p q : Bytes) (f : Flag) (hq : q ≠ p) :
    (track ls p f).filter (·.pat == q) = ls.filter (·.pat == q) := by
  fun_cases track ls p f
  · rfl
  · next nl r hr =>
    obtain ⟨a, l, b, hl, rfl, rfl⟩ := replaceFirst_eq_some hr
    simp [nl, newLine, hl, Ne.symm hq]
  · next nl _ => simp [nl, newLine, Ne.symm hq]

theorem already_after (ls : List Line) (p : Bytes) (f : Flag) : already (track ls p f) p f = true := by
  rcases track_cases ls p f with ⟨h, e⟩ | hm
  · rwa [e]
  · refine already_iff.mpr ⟨_, hm, about_self hm rfl, rfl, ?_⟩
    -- the new line carries the flag that was asked for, whichever it is
    cases f <;> simp [flagOK, newLine, keepLock]

theorem track_idempotent (ls : List Line) (p : Bytes) (f : Flag) : track (track ls p f) p f = track ls p f :=
  if_pos (already_after ls p f)

/-- **C19.seq_track_tracks** (with the lock flag's demand in addition) -/
theorem track_supported (ls : List Line) (p : Bytes) (f : Flag) :
    ∃ l ∈ track ls p f, (l.pat = joinDot p ∨ l.pat = p) ∧ l.lfs = true ∧ flagOK f l = true :=
  have ⟨l, hl, hab, h⟩ := already_iff.mp (already_after ls p f)
  ⟨l, hl, about_same hab, h⟩

theorem track_lock (ls : List Line) (p : Bytes) :
    ∃ l ∈ track ls p .lock, (l.pat = joinDot p ∨ l.pat = p) ∧ l.lfs = true ∧ l.lockable = true :=
  track_supported ls p .lock

theorem mem_untrack {ls : List Line} {p : Bytes} {l : Line} :
    l ∈ untrack ls p ↔ l ∈ ls ∧ ¬ (l.pat = p ∧ l.lfs = true) := by
  cases h : l.lfs <;> simp [untrack, h]

theorem untrack_keeps (ls : List Line) (p : Bytes) (l : Line) (hl : l ∈ ls) (h : ¬ (l.pat = p ∧ l.lfs = true)) :
    l ∈ untrack ls p :=
  mem_untrack.mpr ⟨hl, h⟩

theorem untrack_others (ls : List Line) (p q : Bytes) (hq : q ≠ p) :
    (untrack ls p).filter (·.pat == q) = ls.filter (·.pat == q) := by
  rw [untrack, List.filter_filter]
  refine List.filter_congr fun l _ => ?_
  cases h : l.pat == q
  · rfl
  · rw [beq_iff_eq.mp h, beq_false_of_ne hq, Bool.and_false]
    rfl

theorem untrack_idempotent (ls : List Line) (p : Bytes) : untrack (untrack ls p) p = untrack ls p := by
  simp [untrack, List.filter_filter]

def opPat : Op → Bytes
  | .track p _ => p
  | .untrack p => p

theorem step_others (ls : List Line) (o : Op) (q : Bytes) (hq : q ≠ opPat o) :
    (step ls o).filter (·.pat == q) = ls.filter (·.pat == q) := by
  cases o with
  | track p f => exact track_others ls p q f hq
  | untrack p => exact untrack_others ls p q hq

/-- **C19.seq_other_patterns_unchanged** -/
theorem run_others (ops : List Op) (q : Bytes) (h : ∀ o ∈ ops, (q == opPat o) = false) (ls : List Line) :
    (run ls ops).filter (·.pat == q) = ls.filter (·.pat == q) :=
  List.foldlRecOn (motive := fun ls' => ls'.filter (·.pat == q) = ls.filter (·.pat == q)) ops step rfl
    fun ls' hls o ho => (step_others ls' o q (by simpa using h o ho)).trans hls

end TrkSeq
