import LfsModel.AClean
import LfsModel.ACleanThm
import LfsModel.AStream
import LfsModel.AStreamLemmas
import LfsModel.Api
import LfsModel.ApiProofs
import LfsModel.ApiReq
import LfsModel.AttrFilter
import LfsModel.AuthLoop
import LfsModel.Backoff
import LfsModel.Checkout
import LfsModel.CheckoutProofs
import LfsModel.Config
import LfsModel.ConfigProofs
import LfsModel.Crash
import LfsModel.CrashExec
import LfsModel.CrashIno
import LfsModel.CrashRerun
import LfsModel.CredCache
import LfsModel.Creds
import LfsModel.Download
import LfsModel.DownloadAlt
import LfsModel.DownloadConc
import LfsModel.Expiry
import LfsModel.Filter
import LfsModel.FilterModel
import LfsModel.FilterProcess
import LfsModel.FilterProcessProofs
import LfsModel.FilterProofs
import LfsModel.FilterRound
import LfsModel.Fsck
import LfsModel.FsckProofs
import LfsModel.FsckScan
import LfsModel.Gen
import LfsModel.GenApi
import LfsModel.Hooks
import LfsModel.HooksProofs
import LfsModel.Locks
import LfsModel.LocksProofs
import LfsModel.LogScan
import LfsModel.PathList
import LfsModel.Pkt
import LfsModel.Pointer
import LfsModel.PostCommit
import LfsModel.PrePush
import LfsModel.Props.C01
import LfsModel.Props.C02
import LfsModel.Props.C03
import LfsModel.Props.C04
import LfsModel.Props.C05
import LfsModel.Props.C06
import LfsModel.Props.C07
import LfsModel.Props.C08
import LfsModel.Props.C09
import LfsModel.Props.C10
import LfsModel.Props.C11
import LfsModel.Props.C12
import LfsModel.Props.C13
import LfsModel.Props.C14
import LfsModel.Props.C15
import LfsModel.Props.C16
import LfsModel.Props.C17
import LfsModel.Props.C18
import LfsModel.Props.C19
import LfsModel.Props.C20
import LfsModel.Prune
import LfsModel.PruneProofs
import LfsModel.PtrRound
import LfsModel.PtrSound
import LfsModel.PtrText
import LfsModel.Push
import LfsModel.PushModel
import LfsModel.PushReport
import LfsModel.Redirect
import LfsModel.RedirectModel
import LfsModel.RedirectProofs
import LfsModel.Rewrite
import LfsModel.Sha256
import LfsModel.SmudgeSkip
import LfsModel.TQ
import LfsModel.TQAbort
import LfsModel.TQConcat
import LfsModel.TQErr
import LfsModel.TQInv
import LfsModel.TQMeasure
import LfsModel.TQRetry
import LfsModel.TQStep
import LfsModel.TQTrace
import LfsModel.TQTraceProofs
import LfsModel.TagRewrite
import LfsModel.Track
import LfsModel.TrackProofs
import LfsModel.TrackSeq
import LfsModel.UrlEscape
